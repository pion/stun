/-
  `Canonical m`: the struct and its wire bytes agree. Every building operation keeps that: the header writers through
  one lemma about rewriting a header field, the attribute setters because each of them is one `Add`.
-/
import Stun.Proofs.Build
import Stun.Model.Integrity
namespace Stun.BuildProofs
open Stun Stun.Msg Stun.Spec

/-- wire form of one struct attribute with canonical (all-zero) padding -/
def wireOf (a : RawAttr) : Nat × Bytes × Bytes := (a.typ, a.val, zeros (pad4 a.val.length))

/-- the canonical encoding of an attribute list -/
def body (as : List RawAttr) : Bytes := serialize (as.map wireOf)

def AttrsWF (as : List RawAttr) : Prop := ∀ a ∈ as, a.length = a.val.length ∧ a.typ < 65536 ∧ a.val.length < 65536

/-- struct and wire bytes agree, except that the two length bytes of the header currently hold `lb`
    (integrity / fingerprint setters pass through such states) -/
structure CanonicalL (m : Msg) (lb : Bytes) : Prop where
  cap : m.len ≤ m.mem.length
  tidLen : m.tid.length = 12
  lbLen : lb.length = 2
  raw : m.raw = headerL m lb ++ body m.attrs
  length : m.length = (body m.attrs).length
  fits : m.length < 65536
  attrs : ∀ a ∈ m.attrs, a.length = a.val.length ∧ a.typ < 65536 ∧ a.val.length < 65536

/-- the struct always matches its wire bytes, which are a well-formed message with zero padding -/
def Canonical (m : Msg) : Prop := CanonicalL m (put16 m.length)

theorem body_append_list (x y : List RawAttr) : body (x ++ y) = body x ++ body y := by
  unfold body
  induction x with
  | nil => rfl
  | cons a r ih => simp only [List.cons_append, List.map_cons, serialize, ih, List.append_assoc]

theorem body_append (as : List RawAttr) (a : RawAttr) :
    body (as ++ [a]) = body as ++ tlvBytes a.typ a.val (zeros (pad4 a.val.length)) := by
  rw [body_append_list]; exact congrArg _ (List.append_nil _)

theorem body_cons_length (a : RawAttr) (r : List RawAttr) :
    (body (a :: r)).length = 4 + a.val.length + pad4 a.val.length + (body r).length := by
  rw [body, List.map_cons, wireOf, DecodeProofs.serialize_cons_length, zeros_length]; rfl

theorem CanonicalL.rawLen {m : Msg} {lb : Bytes} (h : CanonicalL m lb) : m.len = 20 + m.length := by
  rw [← raw_length h.cap, h.raw, List.length_append, headerL_length m lb h.tidLen h.lbLen, ← h.length]

theorem CanonicalL.le_len {m : Msg} {lb : Bytes} (h : CanonicalL m lb) : 20 ≤ m.len :=
  h.rawLen ▸ Nat.le_add_right ..

theorem CanonicalL.raw_drop {m : Msg} {lb : Bytes} (h : CanonicalL m lb) : m.raw.drop 20 = body m.attrs := by
  rw [h.raw, ← headerL_length m lb h.tidLen h.lbLen, List.drop_left]

theorem pad4_eq (n : Nat) : pad4 n = (4 - n % 4) % 4 := rfl

theorem put32_len (n : Nat) : (put32 n).length = 4 := put32_length n

/-- rewriting one header field of a message whose bytes agree with its struct up to the length bytes: the one
    argument for `SetType`, the transaction-ID setter, `WriteLength` and the length bump of the signing setters -/
theorem CanonicalL.writeHdr {m : Msg} {lb : Bytes} (h : CanonicalL m lb) {me c : Nat} {id lb' : Bytes} {pos : Nat}
    {d : Bytes} (hid : id.length = 12) (hlb : lb'.length = 2) (hp : pos + d.length ≤ 20)
    (hh : writeAt (headerL m lb) pos d = headerL { m with method := me, cls := c, tid := id } lb') :
    CanonicalL { m with method := me, cls := c, tid := id, mem := writeAt m.mem pos d } lb' := by
  have hp' := Nat.le_trans hp h.le_len
  refine ⟨?_, hid, hlb, ?_, h.length, h.fits, h.attrs⟩
  · show m.len ≤ (writeAt m.mem pos d).length
    rw [writeAt_length (Nat.le_trans hp' h.cap)]; exact h.cap
  · show ({ m with mem := writeAt m.mem pos d } : Msg).raw = _
    rw [raw_writeAt h.cap hp', h.raw, writeAt_append (by rw [headerL_length m lb h.tidLen h.lbLen]; exact hp), hh]
    rfl

theorem headerL_setType (m : Msg) (lb : Bytes) (me c : Nat) :
    writeAt (headerL m lb) 0 (put16 (typeValue me c)) = headerL { m with method := me, cls := c } lb := by
  simp only [headerL, List.append_assoc]
  -- `put16_length` twice, not `rfl`: unifying the two lengths directly unfolds `typeValue`
  exact writeAt_mid (a := []) rfl ((put16_length _).trans (put16_length _).symm)

theorem headerL_setLen (m : Msg) {lb lb' : Bytes} (h : lb.length = 2) (h' : lb'.length = 2) :
    writeAt (headerL m lb) 2 lb' = headerL m lb' := by
  simp only [headerL, List.append_assoc]
  rw [← List.append_assoc, ← List.append_assoc _ lb']
  exact writeAt_mid rfl (h.trans h'.symm)

theorem headerL_setTid (m : Msg) {lb id : Bytes} (h : lb.length = 2) (hid : m.tid.length = id.length) :
    writeAt (headerL m lb) 8 id = headerL { m with tid := id } lb := by
  have := writeAt_mid (a := put16 (typeValue m.method m.cls) ++ lb ++ put32 magicCookie) (c := []) (pos := 8)
    (by simp only [List.length_append, h]; rfl) hid
  rw [List.append_nil, List.append_nil] at this; exact this

theorem CanonicalL.setType {m : Msg} {lb : Bytes} (h : CanonicalL m lb) (me c : Nat) :
    CanonicalL (m.setType me c) lb := by
  -- `by exact`: see `writeHeader_eq`
  rw [Msg.setType, writeType_eq (by exact Nat.le_trans (by decide) h.le_len)]
  exact h.writeHdr h.tidLen h.lbLen (by rw [put16_length]; decide) (headerL_setType m lb me c)

theorem CanonicalL.setTid {m : Msg} {lb id : Bytes} (h : CanonicalL m lb) (hid : id.length = 12) :
    CanonicalL ({ m with tid := id }).writeTransactionID lb :=
  h.writeHdr hid h.lbLen (by rw [hid]; decide) (headerL_setTid m h.lbLen (h.tidLen.trans hid.symm))

theorem CanonicalL.setLen {m : Msg} {lb : Bytes} (h : CanonicalL m lb) {lb' : Bytes} (hlb : lb'.length = 2) :
    CanonicalL { m with mem := writeAt m.mem 2 lb' } lb' :=
  h.writeHdr h.tidLen hlb (by rw [hlb]; decide) (headerL_setLen m h.lbLen hlb)

/-- `Length += k; WriteLength()`, after which the signing setters compute their value -/
theorem writeLength_ahead {m : Msg} (h : Canonical m) {k : Nat} (hk : m.length + k < 65536) :
    ({ m with length := w32 (m.length + k) } : Msg).writeLength =
      { m with length := m.length + k, mem := writeAt m.mem 2 (put16 (m.length + k)) } ∧
    (writeAt m.mem 2 (put16 (m.length + k))).length = m.mem.length ∧
    ({ m with length := m.length + k, mem := writeAt m.mem 2 (put16 (m.length + k)) } : Msg).raw =
      headerL m (put16 (m.length + k)) ++ body m.attrs := by
  have h4 : 4 ≤ m.len := Nat.le_trans (by decide) h.le_len
  refine ⟨?_, writeAt_length (Nat.le_trans h4 h.cap), (h.setLen rfl).raw⟩
  rw [show w32 (m.length + k) = m.length + k from Nat.mod_eq_of_lt (Nat.lt_trans hk (by decide))]
  exact writeLength_eq h4

/-- `WriteHeader` rewrites all 20 header bytes, so nothing is asked of what stood there; `Encode` sets `Length` and the
    list only afterwards, which leaves the old `Length` in the header -/
theorem canonicalL_of_writeHeader {m : Msg} (hcap : m.len ≤ m.mem.length) (htid : m.tid.length = 12)
    {as : List RawAttr} {L : Nat} (hb : m.raw.drop 20 = body as) (hl : L = (body as).length) (hfit : L < 65536)
    (hwf : AttrsWF as) : CanonicalL { m.writeHeader with length := L, attrs := as } (put16 m.length) := by
  have hc := writeHeader_cap hcap htid
  have hn := writeHeader_len m
  have hr := writeHeader_raw hcap htid
  obtain ⟨f1, f2, f3, -, -⟩ := writeHeader_fields m
  -- as a variable `m.writeHeader` cannot be unfolded by accident
  generalize m.writeHeader = w at *
  refine ⟨?_, by dsimp only; rw [f3, htid], rfl, ?_, hl, hfit, hwf⟩
  · show w.len ≤ w.mem.length
    rw [hn, hc]; exact max_le_max_right hcap 20
  · show w.raw = _
    rw [hr, hb]; simp only [headerL, f1, f2, f3]

theorem canonical_of_writeHeader {m : Msg} (hcap : m.len ≤ m.mem.length) (htid : m.tid.length = 12)
    (hb : m.raw.drop 20 = body m.attrs) (hl : m.length = (body m.attrs).length) (hfit : m.length < 65536)
    (hwf : AttrsWF m.attrs) : Canonical m.writeHeader := by
  obtain ⟨-, -, -, f4, f5⟩ := writeHeader_fields m
  have := canonicalL_of_writeHeader hcap htid hb hl hfit hwf
  -- `WriteHeader` keeps `Length` and the list, and a struct updated with its own fields is itself
  rw [← f5, ← f4] at this
  generalize m.writeHeader = w at this ⊢
  exact this

theorem canonical_start (m : Msg) (htid : m.tid.length = 12) : Canonical (m.reset.writeHeader) :=
  canonical_of_writeHeader (m := m.reset) (Nat.zero_le _) htid rfl rfl (show 0 < 65536 by decide) nofun

/-- `Add` re-establishes full agreement from agreement up to the length bytes: its `WriteLength` puts them right -/
theorem canonical_add {m : Msg} {lb : Bytes} {t : Nat} {v : Bytes} (h : CanonicalL m lb) (ht : t < 65536)
    (hfit : m.length + 4 + v.length + pad4 v.length < 65536) : Canonical (m.add t v) := by
  have hvlt : v.length < 65536 := by omega
  have hv : v.length % 65536 = v.length := Nat.mod_eq_of_lt hvlt
  have hfit' : m.length + 4 + v.length + 3 < 4294967296 := by omega
  have hlen := h.rawLen
  have hL := add_length hfit' t
  obtain ⟨f1, f2, f3, f4⟩ := add_fields m t v
  rw [hv] at f4
  refine ⟨?cap, f3.symm ▸ h.tidLen, rfl, ?raw, ?length, hL ▸ hfit, ?attrs⟩
  case cap => rw [add_cap h.cap]; exact Nat.le_max_right ..
  case raw =>
    -- `add_raw` gives the old bytes ++ TLV with two bytes overwritten: the old bytes are header ++ body, the write
    -- falls into the header, where it puts the new `Length`, and body ++ TLV is the body of the new list
    have hold : m.raw.take (20 + m.length) = headerL m lb ++ body m.attrs := by
      rw [List.take_of_length_le (Nat.le_of_eq ((raw_length h.cap).trans hlen)), h.raw]
    rw [add_raw h.cap (Nat.le_of_eq hlen.symm) hfit', hL, hold, List.append_assoc,
      writeAt_append (by rw [headerL_length m lb h.tidLen h.lbLen, put16_length]; decide), headerL_setLen m h.lbLen rfl,
      f4, body_append, hv]
    simp only [headerL, f1, f2, f3, tlvBytes]
  case length =>
    rw [hL, f4, body_append, List.length_append, ← h.length, DecodeProofs.tlvBytes_length, zeros_length]
    simp only [Nat.add_assoc]
  case attrs =>
    rw [f4]
    intro a ha
    rcases List.mem_append.1 ha with ha | ha
    · exact h.attrs a ha
    · cases List.mem_singleton.1 ha; exact ⟨rfl, ht, hvlt⟩

section   -- a canonical `m'` that is a canonical `m` with one more attribute, as the signing setters leave it
variable {m m' : Msg} {a : RawAttr} (h : Canonical m) (h' : Canonical m') (hattrs : m'.attrs = m.attrs ++ [a])
include h h' hattrs

theorem length_appended : m'.length = m.length + (4 + a.val.length + pad4 a.val.length) := by
  rw [h'.length, hattrs, body_append, List.length_append, ← h.length, DecodeProofs.tlvBytes_length, zeros_length]

theorem raw_before_last (hmeth : m'.method = m.method) (hcls : m'.cls = m.cls) (htid : m'.tid = m.tid) :
    m'.raw.take (20 + m.length) = headerL m (put16 m'.length) ++ body m.attrs := by
  rw [h'.raw, hattrs, body_append, headerL_congr hmeth hcls htid, ← List.append_assoc]
  exact List.take_left' (by rw [List.length_append, headerL_length m _ h.tidLen rfl, ← h.length])

end

/-- the (type, value) a value-adding setter appends when it accepts its argument -/
def Setter.adds (s : Setter) (m : Msg) : Option (Nat × Bytes) :=
  match s with
  | .raw t v => some (t, v)
  | .text k v => if v.length ≤ k.limit then some (k.attr, v) else none
  | .xorAddr a ip p =>
    (addrFamily ip).map (fun fi => (a, put16 fi.1 ++ put16 (p ^^^ (magicCookie >>> 16)) ++ xorBytes fi.2 (put32 magicCookie ++ m.tid)))
  | .mapAddr a ip p => (addrFamily ip).map (fun fi => (a, put16 fi.1 ++ put16 p ++ fi.2))
  | .errorCode c r =>
    if r.length ≤ errorCodeReasonMaxB then
      some (attrErrorCode, [0, 0, UInt8.ofNat (c / errorCodeModulo), UInt8.ofNat (c % errorCodeModulo)] ++ r)
    else none
  | .errorCodeDefault c =>
    (errorReasons.lookup c).bind (fun r =>
      if r.length ≤ errorCodeReasonMaxB then
        some (attrErrorCode, [0, 0, UInt8.ofNat (c / errorCodeModulo), UInt8.ofNat (c % errorCodeModulo)] ++ r)
      else none)
  | .unknownAttrs ts => some (attrUnknownAttributes, ts.flatMap put16)
  | _ => none

/-- the setters that validate an argument and then call `Add` once -/
def Setter.IsValue : Setter → Prop
  | .msgType .. | .tid _ | .integrity _ | .fingerprint => False
  | _ => True

/-- the error of a refusal; arbitrary for the setters that never refuse -/
def Setter.err : Setter → SetErr
  | .xorAddr .. | .mapAddr .. => .badIPLength
  | .errorCodeDefault c => if (errorReasons.lookup c).isSome then .overflow else .noDefaultReason
  | .integrity _ => .fpBeforeIntegrity
  | _ => .overflow

theorem reason_overflow (r : Bytes) :
    checkOverflow (r.length + errorCodeReasonStart) (errorCodeReasonMaxB + errorCodeReasonStart) =
      decide (r.length ≤ errorCodeReasonMaxB) := by
  simp [checkOverflow]

section   -- the four setters that are not one `Add` of a value (for the others: `addTo_value`)
variable (mac : Bytes → Bytes → Bytes) (m : Msg)

theorem addTo_msgType (me c : Nat) : Setter.addTo mac (.msgType me c) m = (m.setType me c, none) := rfl

theorem addTo_tid (id : Bytes) :
    Setter.addTo mac (.tid id) m = (({ m with tid := id } : Msg).writeTransactionID, none) := rfl

theorem addTo_integrity (key : Bytes) : Setter.addTo mac (.integrity key) m = integrityAddTo mac key m := rfl

theorem addTo_fingerprint : Setter.addTo mac .fingerprint m = fingerprintAddTo m := rfl

end

theorem addTo_value (mac : Bytes → Bytes → Bytes) (s : Setter) (m : Msg) (hs : Setter.IsValue s := by trivial) :
    s.addTo mac m = match Setter.adds s m with
      | some (t, v) => (m.add t v, none)
      | none => (m, some (Setter.err s)) := by
  cases s with
  | msgType _ _ | tid _ | integrity _ | fingerprint => exact hs.elim
  | raw t v | unknownAttrs ts => rfl
  | text k v =>
    simp only [Setter.adds, Setter.addTo, textAddToAs, checkOverflow, decide_eq_true_eq]
    by_cases h : v.length ≤ k.limit <;> simp [h, Setter.err]
  | xorAddr a ip p =>
    simp only [Setter.adds, Setter.addTo, xorAddToAs]
    cases addrFamily ip <;> rfl
  | mapAddr a ip p =>
    simp only [Setter.adds, Setter.addTo, mappedAddToAs]
    cases addrFamily ip <;> rfl
  | errorCode c r =>
    simp only [Setter.adds, Setter.addTo, errorCodeAddTo, reason_overflow, decide_eq_true_eq]
    by_cases h : r.length ≤ errorCodeReasonMaxB <;> simp [h, Setter.err]
  | errorCodeDefault c =>
    simp only [Setter.adds, Setter.addTo, errorCodeDefaultAddTo, Setter.err]
    cases errorReasons.lookup c with
    | none => rfl
    | some r =>
      simp only [Option.bind_some, errorCodeAddTo, reason_overflow, decide_eq_true_eq]
      by_cases h : r.length ≤ errorCodeReasonMaxB <;> simp [h]

theorem CanonicalL.rebuf {m : Msg} {lb : Bytes} (h : CanonicalL m lb) {mem' : Bytes}
    (hl : mem'.length = m.mem.length) (ht : mem'.take m.len = m.mem.take m.len) :
    CanonicalL { m with mem := mem' } lb :=
  ⟨hl ▸ h.cap, h.tidLen, h.lbLen, (show mem'.take m.len = _ from ht ▸ h.raw), h.length, h.fits, h.attrs⟩

/-- `MessageIntegrity.AddTo` without FINGERPRINT present is one `Add`, into a buffer of the same capacity whose
    header length field already counts the new attribute; the value is the MAC of those bytes -/
theorem integrityAddTo_eq (mac : Bytes → Bytes → Bytes) (key : Bytes) (m : Msg) (h : Canonical m)
    (hfp : m.attrs.any (fun a => a.typ == attrFingerprint) = false) (hfit : m.length + 24 < 65536) :
    ∃ mem', mem'.length = m.mem.length ∧ CanonicalL { m with mem := mem' } (put16 (m.length + 24)) ∧
      integrityAddTo mac key m = (({ m with mem := mem' } : Msg).add attrMessageIntegrity
        (mac key (headerL m (put16 (m.length + 24)) ++ body m.attrs)), none) := by
  obtain ⟨e, hw, hr⟩ := writeLength_ahead h hfit
  have B : CanonicalL _ (put16 (m.length + 24)) := h.setLen rfl
  refine ⟨(({ m with mem := writeAt m.mem 2 (put16 (m.length + 24)) } : Msg).sumIntoSpare
      (mac key (headerL m (put16 (m.length + 24)) ++ body m.attrs))).mem,
    (sumIntoSpare_cap _ _).trans hw, B.rebuf (sumIntoSpare_cap _ _) (sumIntoSpare_take _ _), ?_⟩
  simp only [integrityAddTo, hfp, Bool.false_eq_true, if_false, messageIntegritySize, attributeHeaderSize,
    Nat.add_assoc, Nat.reduceAdd, e]
  rw [hr, sumIntoSpare_eq, sumIntoSpare_eq]

/-- `FingerprintAttr.AddTo` likewise; the value is the CRC of those bytes xor 0x5354554e -/
theorem fingerprintAddTo_eq (m : Msg) (h : Canonical m) (hfit : m.length + 8 < 65536) :
    ∃ mem', mem'.length = m.mem.length ∧ CanonicalL { m with mem := mem' } (put16 (m.length + 8)) ∧
      fingerprintAddTo m = (({ m with mem := mem' } : Msg).add attrFingerprint
        (put32 (fingerprintValue (headerL m (put16 (m.length + 8)) ++ body m.attrs))), none) := by
  obtain ⟨e, hw, hr⟩ := writeLength_ahead h hfit
  refine ⟨_, hw, h.setLen rfl, ?_⟩
  simp only [fingerprintAddTo, fingerprintSize, attributeHeaderSize, Nat.add_assoc, Nat.reduceAdd, e]
  rw [hr]

theorem integrity_canonical (mac : Bytes → Bytes → Bytes) (hmac : ∀ k x, (mac k x).length = 20)
    (key : Bytes) (m : Msg) (h : Canonical m) (hfp : m.attrs.any (fun a => a.typ == attrFingerprint) = false)
    (hfit : m.length + 24 < 65536) :
    let v := mac key (headerL m (put16 (m.length + 24)) ++ body m.attrs)
    (integrityAddTo mac key m).2 = none ∧ Canonical (integrityAddTo mac key m).1 ∧
    (integrityAddTo mac key m).1.attrs = m.attrs ++ [⟨attrMessageIntegrity, 20, v⟩] ∧
    (integrityAddTo mac key m).1.method = m.method ∧ (integrityAddTo mac key m).1.cls = m.cls ∧
    (integrityAddTo mac key m).1.tid = m.tid := by
  obtain ⟨mem', -, hc, e⟩ := integrityAddTo_eq mac key m h hfp hfit
  rw [e]
  refine ⟨rfl, canonical_add hc (by decide) (by rw [hmac]; exact hfit), ?_⟩
  simp [hmac]   -- `add_fields`: the list, type and ID after an `Add`

theorem fingerprint_canonical (m : Msg) (h : Canonical m) (hfit : m.length + 8 < 65536) :
    let val := fingerprintValue (headerL m (put16 (m.length + 8)) ++ body m.attrs)
    (fingerprintAddTo m).2 = none ∧ Canonical (fingerprintAddTo m).1 ∧
    (fingerprintAddTo m).1.attrs = m.attrs ++ [⟨attrFingerprint, 4, put32 val⟩] ∧
    (fingerprintAddTo m).1.method = m.method ∧ (fingerprintAddTo m).1.cls = m.cls ∧
    (fingerprintAddTo m).1.tid = m.tid := by
  obtain ⟨mem', -, hc, e⟩ := fingerprintAddTo_eq m h hfit
  rw [e]
  refine ⟨rfl, canonical_add hc (by decide) (by rw [put32_length]; exact hfit), ?_⟩
  simp [put32_length]   -- `add_fields` again

/-- the size / type preconditions under which a setter keeps the message representable
    (`Add` has no error return for sizes beyond the 16-bit length field) -/
def SetterFits (s : Setter) (m : Msg) : Prop :=
  match s with
  | .msgType _ _ => True
  | .tid id => id.length = 12
  | .integrity _ => m.length + 24 < 65536
  | .fingerprint => m.length + 8 < 65536
  | s => match Setter.adds s m with
         | some (t, v) => t < 65536 ∧ m.length + 4 + v.length + pad4 v.length < 65536
         | none => True

theorem fits_value {s : Setter} (m : Msg) (hs : Setter.IsValue s := by trivial) :
    SetterFits s m = match Setter.adds s m with
      | some (t, v) => t < 65536 ∧ m.length + 4 + v.length + pad4 v.length < 65536
      | none => True := by
  cases s with
  | msgType _ _ | tid _ | integrity _ | fingerprint => exact hs.elim
  | _ => rfl

theorem setter_fail_atomic (mac : Bytes → Bytes → Bytes) (s : Setter) (m : Msg) (e : SetErr)
    (h : (s.addTo mac m).2 = some e) : (s.addTo mac m).1 = m := by
  cases s with
  | msgType me c | tid id | fingerprint => cases h
  | integrity key =>
    rw [addTo_integrity, integrityAddTo] at h ⊢
    split at h
    · rw [if_pos ‹_›]
    · cases h
  | _ =>
    rw [addTo_value mac _ m] at h ⊢
    split at h
    · cases h
    · rfl

theorem value_canonical (mac : Bytes → Bytes → Bytes) {s : Setter} {m : Msg} (h : Canonical m) (hf : SetterFits s m)
    (hs : Setter.IsValue s := by trivial) : Canonical (s.addTo mac m).1 := by
  rw [addTo_value mac s m]; rw [fits_value m] at hf
  cases ha : Setter.adds s m with
  | none => exact h
  | some tv => rw [ha] at hf; exact canonical_add h hf.1 hf.2

theorem setter_canonical (mac : Bytes → Bytes → Bytes) (hmac : ∀ k x, (mac k x).length = 20)
    (s : Setter) (m : Msg) (h : Canonical m) (hf : SetterFits s m) : Canonical (s.addTo mac m).1 := by
  cases s with
  | msgType me c =>
    -- `SetType` keeps `Length`, so the length bytes `Canonical` asks for afterwards are those of `m`
    simp only [Canonical, addTo_msgType, setType_fields]; exact h.setType me c
  | tid id => exact h.setTid hf
  | integrity key =>
    by_cases hfp : m.attrs.any (fun a => a.typ == attrFingerprint) = true
    · rw [addTo_integrity, integrityAddTo, if_pos hfp]; exact h
    · exact (integrity_canonical mac hmac key m h (Bool.eq_false_iff.2 hfp) hf).2.1
  | fingerprint => exact (fingerprint_canonical m h hf).2.1
  | _ => exact value_canonical mac h hf

/-- the size preconditions hold at every step of a setter list -/
def AllFit (mac : Bytes → Bytes → Bytes) : List Setter → Msg → Prop
  | [], _ => True
  | s :: r, m => SetterFits s m ∧ ((s.addTo mac m).2 = none → AllFit mac r (s.addTo mac m).1)

theorem applySetters_cons_ok {mac : Bytes → Bytes → Bytes} {s : Setter} {m : Msg} (r : List Setter)
    (h : (s.addTo mac m).2 = none) : applySetters mac (s :: r) m = applySetters mac r (s.addTo mac m).1 := by
  rw [applySetters]; split
  · rename_i heq; rw [heq] at h; cases h
  · rename_i heq; rw [heq]

theorem applySetters_cons_err {mac : Bytes → Bytes → Bytes} {s : Setter} {m : Msg} {e : SetErr} (r : List Setter)
    (h : (s.addTo mac m).2 = some e) : applySetters mac (s :: r) m = (m, some e) := by
  have hm := setter_fail_atomic mac s m e h
  rw [applySetters]; split
  · rename_i heq; rw [heq] at h hm; cases h; cases hm; rfl
  · rename_i heq; rw [heq] at h; cases h

theorem applySetters_invariant {mac : Bytes → Bytes → Bytes} {P : Msg → Prop}
    (step : ∀ s m, P m → SetterFits s m → P (s.addTo mac m).1) (ss : List Setter) (m : Msg) (h : P m)
    (hf : AllFit mac ss m) : P (applySetters mac ss m).1 := by
  induction ss generalizing m with
  | nil => exact h
  | cons s r ih =>
    cases he : (s.addTo mac m).2 with
    | some e => rw [applySetters_cons_err r he]; exact h
    | none => rw [applySetters_cons_ok r he]; exact ih _ (step s m h hf.1) (hf.2 he)

theorem build_canonical (mac : Bytes → Bytes → Bytes) (hmac : ∀ k x, (mac k x).length = 20)
    (m : Msg) (ss : List Setter) (hcap : m.len ≤ m.mem.length) (htid : m.tid.length = 12)
    (hf : AllFit mac ss m.reset.writeHeader) : Canonical (build mac m ss).1 := by
  have _ := hcap   -- not used: `Reset` empties the visible window, whatever `len` and `cap` were
  exact applySetters_invariant (setter_canonical mac hmac) ss _ (canonical_start m htid) hf

theorem build_first_error (mac : Bytes → Bytes → Bytes) (ss : List Setter) (m : Msg) (e : SetErr)
    (h : (applySetters mac ss m).2 = some e) :
    ∃ pre s post, ss = pre ++ s :: post ∧ (applySetters mac pre m).2 = none ∧
      (s.addTo mac (applySetters mac pre m).1).2 = some e ∧
      (applySetters mac ss m).1 = (applySetters mac pre m).1 := by
  induction ss generalizing m with
  | nil => cases h
  | cons s r ih =>
    cases he : (s.addTo mac m).2 with
    | some e' =>
      rw [applySetters_cons_err r he] at h ⊢
      exact ⟨[], s, r, rfl, rfl, he.trans h, rfl⟩
    | none =>
      rw [applySetters_cons_ok r he] at h ⊢
      obtain ⟨pre, s', post, h1, h2, h3, h4⟩ := ih _ h
      refine ⟨s :: pre, s', post, by rw [h1]; rfl, ?_, ?_, ?_⟩ <;> rw [applySetters_cons_ok pre he]
      · exact h2
      · exact h3
      · exact h4

theorem build_all_ok (mac : Bytes → Bytes → Bytes) (ss : List Setter) (m : Msg)
    (h : ∀ s ∈ ss, ∀ m', (s.addTo mac m').2 = none) : (applySetters mac ss m).2 = none := by
  induction ss generalizing m with
  | nil => rfl
  | cons s r ih =>
    rw [applySetters_cons_ok r (h s List.mem_cons_self m)]
    exact ih _ (fun s' hs' => h s' (List.mem_cons_of_mem _ hs'))

end Stun.BuildProofs
