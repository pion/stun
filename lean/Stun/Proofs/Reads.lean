/-
  The checked reads of the getter models (`rd16`, `rdByte`, `sliceFrom`) succeed under their guards. The getters of
  ERROR-CODE and UNKNOWN-ATTRIBUTES are the RFC's decoders on every value, well-formed or not (the second together with
  `decUnknown_isSome`: behind the getter's test for an even length the decoder is defined).
-/
import Stun.Model.Attrs
import Stun.Spec.Attrs
namespace Stun
open Stun.Spec

theorem rd16_eq {v : Bytes} {off : Nat} (h : off + 2 ≤ v.length) : rd16 v off = some (be16 (v.drop off)) := if_pos h
theorem rdByte_eq {v : Bytes} {i : Nat} (h : i < v.length) : rdByte v i = some (v.getD i 0) := if_pos h
theorem sliceFrom_eq {v : Bytes} {n : Nat} (h : n ≤ v.length) : sliceFrom v n = some (v.drop n) := if_pos h

/-- past their common length test, the three reads of both address getters are in range -/
theorem addr_guards {v : Bytes} (h : ¬ v.length ≤ 4) :
    rd16 v 0 = some (be16 (v.drop 0)) ∧ rd16 v 2 = some (be16 (v.drop 2)) ∧ sliceFrom v 4 = some (v.drop 4) :=
  ⟨rd16_eq (by omega), rd16_eq (by omega), sliceFrom_eq (by omega)⟩

theorem errorCodeGetFrom_eq (m : Msg) : errorCodeGetFrom m =
    match m.get attrErrorCode with
    | none => .err .notFound
    | some v => match decErrorCode v with
      | some r => .ok r
      | none => .err .eof := by
  unfold errorCodeGetFrom
  cases m.get attrErrorCode with
  | none => rfl
  | some v =>
    match v with
    | [] | [_] | [_, _] | [_, _, _] => rfl
    | a :: b :: c :: d :: r =>
      have hl : errorCodeReasonStart ≤ (a :: b :: c :: d :: r).length := Nat.le_add_left 4 r.length
      simp only
      rw [if_neg (Nat.not_lt.2 hl), rdByte_eq (Nat.lt_of_lt_of_le (by decide) hl),
        rdByte_eq (Nat.lt_of_lt_of_le (by decide) hl), sliceFrom_eq hl]
      have := c.toNat_lt; have := d.toNat_lt
      simp only [decErrorCode, errorCodeModulo, w16, List.getD_cons_succ, List.getD_cons_zero, Nat.mod_add_mod]
      congr 2; exact Nat.mod_eq_of_lt (by omega)   -- class * 100 + number stays below 2^16

/-- the loop runs into a read out of range exactly where the decoder fails: on a single byte left over -/
theorem unknownLoop_eq (v : Bytes) : ∀ (fuel first : Nat) (acc : List Nat), v.length ≤ first + 2 * fuel →
    unknownLoop v first fuel acc = (decUnknown (v.drop first)).map (acc ++ ·)
  | 0, first, acc, (h : v.length ≤ first) => by
    rw [unknownLoop, if_neg (Nat.not_lt.2 h), List.drop_eq_nil_of_le h, decUnknown, Option.map_some, List.append_nil]
  | n + 1, first, acc, h => by
    rw [unknownLoop]
    generalize hd : v.drop first = d
    have hl := congrArg List.length hd
    rw [List.length_drop] at hl
    match d, hd, hl with
    | [], hd, _ => rw [if_neg (Nat.not_lt.2 (List.drop_eq_nil_iff.1 hd)), decUnknown, Option.map_some, List.append_nil]
    | [x], _, hl =>
      simp only [List.length_cons, List.length_nil] at hl
      rw [if_pos (by omega), rd16, if_neg (by omega)]; rfl
    | a :: b :: t, hd, hl =>
      simp only [List.length_cons] at hl
      have ht : v.drop (first + attrTypeSize) = t := by rw [← List.drop_drop, hd]; rfl
      rw [if_pos (by omega), rd16_eq (by omega), hd]
      simp only [be16]
      rw [unknownLoop_eq v n _ _ (by simp only [attrTypeSize]; omega), ht, decUnknown, Option.map_map]
      congr 1; funext l; exact List.append_assoc acc [u16 a b] l

theorem unknownGetFrom_eq (m : Msg) : unknownGetFrom m =
    match m.get attrUnknownAttributes with
    | none => .err .notFound
    | some v => if v.length % 2 ≠ 0 then .err .badSize else
      match decUnknown v with
      | some l => .ok l
      | none => .panic := by
  unfold unknownGetFrom
  cases m.get attrUnknownAttributes with
  | none => rfl
  | some v =>
    simp only [attrTypeSize]
    rw [unknownLoop_eq v _ _ _ (by omega), List.drop_zero]
    cases decUnknown v <;> rfl

theorem decUnknown_isSome : ∀ v : Bytes, v.length % 2 = 0 → (decUnknown v).isSome = true
  | [], _ => rfl
  | [_], h => nomatch h
  | _ :: _ :: t, h => by
    rw [decUnknown, Option.isSome_map]
    -- the length is `t.length + 2`
    exact decUnknown_isSome t ((Nat.add_mod_right t.length 2).symm.trans h)

end Stun
