/-
  Capacity (C20): every operation ends with `cap' = max cap len'`, so one whose result fits the capacity the message
  already has never moves `Raw`.
-/
import Stun.Proofs.Canonical
namespace Stun.BuildProofs
open Stun Stun.Msg Stun.Spec

theorem grow_cap_ge (m : Msg) (n : Nat) (hcap : m.len ≤ m.mem.length) : m.mem.length ≤ (m.grow n).mem.length := by
  rw [grow_cap hcap]; exact Nat.le_max_left ..

theorem setter_grow (mac : Bytes → Bytes → Bytes) (s : Setter) (m : Msg) (h : Canonical m) (hf : SetterFits s m) :
    m.len ≤ (s.addTo mac m).1.len ∧ (s.addTo mac m).1.mem.length = max m.mem.length (s.addTo mac m).1.len := by
  have hmem : 20 ≤ m.mem.length := Nat.le_trans h.le_len h.cap
  have stay : m.len ≤ m.len ∧ m.mem.length = max m.mem.length m.len :=
    ⟨Nat.le_refl _, (Nat.max_eq_left h.cap).symm⟩
  have add : ∀ (m' : Msg) (t : Nat) (v : Bytes), m'.len = m.len → m'.length = m.length →
      m'.mem.length = m.mem.length →
      m.len ≤ (m'.add t v).len ∧ (m'.add t v).mem.length = max m.mem.length (m'.add t v).len := by
    intro m' t v hn hL hl
    constructor
    · rw [add_len, hL, ← h.rawLen]; exact Nat.le_add_right_of_le (Nat.le_add_right ..)
    · rw [add_cap (by rw [hn, hl]; exact h.cap), hl]
  cases s with
  | msgType me c =>
    -- `by exact`: see `writeHeader_eq`
    rw [addTo_msgType, setType, writeType_eq (by exact Nat.le_trans (by decide) h.le_len)]; dsimp only
    rw [writeAt_length (by rw [put16_length]; exact Nat.le_trans (by decide) hmem)]; exact stay
  | tid id =>
    rw [addTo_tid, writeTransactionID]; dsimp only
    rw [writeAt_length (by rw [show id.length = 12 from hf]; exact hmem)]; exact stay
  | integrity key =>
    by_cases hfp : m.attrs.any (fun a => a.typ == attrFingerprint) = true
    · rw [addTo_integrity, integrityAddTo, if_pos hfp]; exact stay
    · obtain ⟨mem', hl, -, e⟩ := integrityAddTo_eq mac key m h (Bool.eq_false_iff.2 hfp) hf
      rw [addTo_integrity, e]; exact add _ _ _ rfl rfl hl
  | fingerprint =>
    obtain ⟨mem', hl, -, e⟩ := fingerprintAddTo_eq m h hf
    rw [addTo_fingerprint, e]; exact add _ _ _ rfl rfl hl
  | _ =>
    rw [addTo_value mac _ m]
    split
    · exact add m _ _ rfl rfl rfl
    · exact stay

/-- one setter: the visible length never shrinks, and if the result still fits the capacity the message had,
    `Raw` stays in the same backing array -/
theorem setter_cap (mac : Bytes → Bytes → Bytes) (hmac : ∀ k x, (mac k x).length = 20)
    (s : Setter) (m : Msg) (h : Canonical m) (hf : SetterFits s m) :
    m.len ≤ (s.addTo mac m).1.len ∧
    ((s.addTo mac m).1.len ≤ m.mem.length → (s.addTo mac m).1.mem.length = m.mem.length) :=
  have _ := hmac   -- not used: the MAC's length matters for the bytes, not for where they go
  have ⟨a, b⟩ := setter_grow mac s m h hf
  ⟨a, fun hle => b.trans (Nat.max_eq_left hle)⟩

theorem applySetters_grow (mac : Bytes → Bytes → Bytes) (hmac : ∀ k x, (mac k x).length = 20)
    (ss : List Setter) (m : Msg) (h : Canonical m) (hf : AllFit mac ss m) :
    m.len ≤ (applySetters mac ss m).1.len ∧
    (applySetters mac ss m).1.mem.length = max m.mem.length (applySetters mac ss m).1.len := by
  refine (applySetters_invariant (mac := mac)
    (P := fun m' => Canonical m' ∧ m.len ≤ m'.len ∧ m'.mem.length = max m.mem.length m'.len)
    ?_ ss m ⟨h, Nat.le_refl _, (Nat.max_eq_left h.cap).symm⟩ hf).2
  intro s m' ⟨c, l, k⟩ hf'
  obtain ⟨k1, k2⟩ := setter_grow mac s m' c hf'
  exact ⟨setter_canonical mac hmac s m' c hf', Nat.le_trans l k1, by rw [k2, k, Nat.max_assoc, Nat.max_eq_right k1]⟩

theorem build_cap (mac : Bytes → Bytes → Bytes) (hmac : ∀ k x, (mac k x).length = 20)
    (m : Msg) (ss : List Setter) (htid : m.tid.length = 12) (hf : AllFit mac ss m.reset.writeHeader) :
    (build mac m ss).1.mem.length = max m.mem.length (build mac m ss).1.len := by
  obtain ⟨k1, k2⟩ := applySetters_grow mac hmac ss _ (canonical_start m htid) hf
  have hs : (m.reset.writeHeader).mem.length = max m.mem.length 20 := writeHeader_cap (Nat.zero_le _) htid
  have hl : (m.reset.writeHeader).len = 20 := writeHeader_len m.reset
  rw [hl] at k1
  unfold build
  rw [k2, hs, Nat.max_assoc, Nat.max_eq_right k1]

end Stun.BuildProofs
