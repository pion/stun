/-
  What the functions of the L1 client do, as case descriptions of their results; each of them is unfolded here and
  nowhere else. For `handleAgentCallback`, its retransmission part and `Start` these are the outcomes `CbOutcome`,
  `RtOutcome`, `StartOutcome`: when each case arises, which table results, what is emitted, what happens to the agent,
  the client afterwards up to a `Frame`. `tick`, `deliver`, `deliverDecoded` and `Close` run callbacks: for them it is
  said which, and on which client.
-/
import Stun.Proofs.ClientBase
namespace Stun.ClientProofs
open Stun Stun.Client

/-- what `retransmit c tx id` does (`c` has no entry under `id`): the transaction is registered again and written, or
    it ends with an error because the agent refuses it (`w = false`) or the write fails (`w = true`) -/
inductive RtOutcome (c : Client) (tx : Txn) (id : TID) : Client × List COut → Prop
  | written {c'} (f : Frame (c.insert (next tx)) c') (a : AgentKept c.agent c'.agent [id]) (hid : id ∈ akeys c'.agent)
      (clock : c'.now = c.now ∧ c'.rto = c.rto) : RtOutcome c tx id (c', [.write tx.raw (some tx.h)])
  | failed {c'} (w : Bool) (e' : CEv) (he : e'.isMsg = false) (f : Frame ((c.insert (next tx)).erase id) c')
      (a : AgentKept c.agent c'.agent [id]) (clock : c'.now = c.now ∧ c'.rto = c.rto) :
      RtOutcome c tx id (c', wrote w tx.raw tx.h ++ [.call tx.h id e'])

theorem retransmit_outcome (c : Client) (tx : Txn) (id : TID) : RtOutcome c tx id (retransmit c tx id) := by
  unfold Client.retransmit
  -- `extract_lets`, not `dsimp only`: with the model's `let`s substituted every later step carries the expanded terms
  extract_lets tx' c1 r w
  split
  · exact .failed false _ (by split <;> rfl) (Frame.refl _) (.refl _ _) ⟨rfl, rfl⟩
  · next hs =>
    have ha : AgentKept c.agent w.1.agent [id] := by
      rw [connWrite_agent]; exact agentKept_start c1.agent id _ [id]
    have f : Frame c1 w.1 := frame_agent_write c1 r.1 tx.raw
    have clock : w.1.now = c.now ∧ w.1.rto = c.rto := connWrite_clock _ _
    by_cases hw : w.2 = true
    · rw [if_pos hw]
      refine .written f ha ?_ clock
      rw [connWrite_agent]
      exact (akeys_start_ok _ id _ hs id).mpr (.inr rfl)
    · rw [if_neg hw]
      exact .failed true _ (by split <;> rfl) ((f.erase id).trans (frame_agent _ _)) (.trans ha (agentKept_stop _ id))
        clock

/-- what `handleAgentCallback` does with the event `e` for `id`: nothing or the fallback handler if no transaction is
    registered under `id`; otherwise the transaction is completed, or retransmitted (`RtOutcome`) -/
inductive CbOutcome (c : Client) (id : TID) (e : CEv) : Client × List COut → Prop
  | ignored (hl : c.lookup id = none) (hn : ¬(c.closed = false ∧ c.hasFallback = true ∧ e ≠ .stopped)) :
      CbOutcome c id e (c, [])
  | fallback (hl : c.lookup id = none) (hc : c.closed = false) (hf : c.hasFallback = true) (he : e ≠ .stopped) :
      CbOutcome c id e (c, [.fallback id e])
  | completed {tx} (hl : c.lookup id = some tx) (hd : c.closed = true ∨ c.maxAttempts ≤ tx.attempt ∨ e.isMsg = true) :
      CbOutcome c id e (c.erase id, [.call tx.h id e])
  | retransmitted {r} (tx : Txn) (hl : c.lookup id = some tx) (hc : c.closed = false) (hlt : tx.attempt < c.maxAttempts)
      (he : e.isMsg = false) (o : RtOutcome (c.erase id) tx id r) (hr : r = retransmit (c.erase id) tx id) :
      CbOutcome c id e r

theorem callback_outcome (c : Client) (id : TID) (e : CEv) : CbOutcome c id e (c.callback id e) := by
  unfold Client.callback
  cases hl : c.lookup id with
  | none =>
    dsimp only
    split
    · next h =>
      simp only [Bool.and_eq_true, bne_iff_ne, ne_eq, Bool.not_eq_true'] at h
      exact .fallback hl h.1.1 h.1.2 h.2
    · next h =>
      simp only [Bool.and_eq_true, bne_iff_ne, ne_eq, Bool.not_eq_true'] at h
      exact .ignored hl fun ⟨a, b, d⟩ => h ⟨⟨a, b⟩, d⟩
  | some tx =>
    dsimp only
    split
    · next hd =>
      simp only [Bool.or_eq_true, decide_eq_true_eq] at hd
      exact .completed hl (or_assoc.mp hd)
    · next hd =>
      simp only [Bool.or_eq_true, decide_eq_true_eq, not_or, Nat.not_le, Bool.not_eq_true] at hd
      exact .retransmitted tx hl hd.1.1 hd.1.2 hd.2 (retransmit_outcome _ tx id) rfl

theorem callback_closed (c : Client) (id : TID) (e : CEv) (h : c.closed = true) :
    c.callback id e = match c.lookup id with
      | none => (c, [])
      | some tx => (c.erase id, [.call tx.h id e]) := by
  have o := callback_outcome c id e
  generalize c.callback id e = r at o ⊢
  cases o with
  | ignored hl | completed hl => rw [hl]
  | fallback _ hc | retransmitted _ _ hc => rw [h] at hc; cases hc

theorem callback_retransmit (c : Client) (id : TID) (e : CEv) (tx : Txn) (hl : c.lookup id = some tx)
    (hc : c.closed = false) (hlt : tx.attempt < c.maxAttempts) (he : e.isMsg = false) :
    c.callback id e = retransmit (c.erase id) tx id := by
  have o := callback_outcome c id e
  generalize c.callback id e = r at o ⊢
  cases o with
  | ignored hl' | fallback hl' => rw [hl] at hl'; cases hl'
  | completed hl' hd =>
    cases Option.some.inj (hl.symm.trans hl')
    rcases hd with h | h | h
    · rw [hc] at h; cases h
    · omega
    · rw [he] at h; cases h
  | retransmitted tx' hl' _ _ _ _ hr => cases Option.some.inj (hl.symm.trans hl'); exact hr

theorem start_none (c : Client) (id : TID) (raw : Bytes) :
    c.start id raw none = if c.closed then (c, some .clientClosed, []) else
      ((c.connWrite raw).1, if (c.connWrite raw).2 then none else some .write, [.write raw none]) := rfl

/-- what `Start` with a handler does: it refuses (closed client, id in use), or registers the transaction and writes
    it, or fails (the agent refuses, or the write fails: `w = true`) and leaves the table as it was -/
inductive StartOutcome (c : Client) (id : TID) (raw : Bytes) (h : Nat) : Client × Option CErr × List COut → Prop
  | rejected (err : CErr) (hr : c.closed = true ∧ err = .clientClosed ∨ c.closed = false ∧ id ∈ ckeys c ∧ err = .exists) :
      StartOutcome c id raw h (c, some err, [])
  | ok {c'} (hk : id ∉ ckeys c) (hc : c.closed = false) (f : Frame (c.insert (started c id raw h)) c')
      (a : AgentKept c.agent c'.agent [id]) (hid : id ∈ akeys c'.agent) :
      StartOutcome c id raw h (c', none, [.write raw (some h)])
  | failed {c'} (err : CErr) (w : Bool) (hk : id ∉ ckeys c) (f : Frame c c') (a : AgentKept c.agent c'.agent [id])
      (hc : c.closed = false) : StartOutcome c id raw h (c', some err, wrote w raw h)

theorem start_outcome (c : Client) (id : TID) (raw : Bytes) (h : Nat) :
    StartOutcome c id raw h (c.start id raw (some h)) := by
  unfold Client.start
  by_cases hc : c.closed = true
  · rw [if_pos hc]; exact .rejected _ (.inl ⟨hc, rfl⟩)
  · rw [if_neg hc]
    have hc : c.closed = false := by simpa using hc
    -- `-zeta`: the `let`s have to survive for `extract_lets`
    dsimp -zeta only
    extract_lets tx d c1
    by_cases hex : (c.lookup id).isSome = true
    · rw [if_pos hex]; exact .rejected _ (.inr ⟨hc, (lookup_iff c id).mp hex, rfl⟩)
    · rw [if_neg hex]
      have hk : id ∉ ckeys c := by rw [← lookup_iff]; exact hex
      -- a registration that is taken back leaves the table as it was
      have back : ∀ {c' : Client}, Frame c1 c' → Frame c (c'.erase id) :=
        fun f => (frame_erase_insert (tx := tx) hk).trans (f.erase id)
      split
      · exact .failed _ false hk (back (Frame.refl _)) (.refl _ _) hc
      · next _ a heq =>
        extract_lets w
        have hs : (c1.agent.start id d).2 = none := by rw [heq]
        have ha : AgentKept c.agent w.1.agent [id] := by
          have := agentKept_start c1.agent id d [id]
          rw [connWrite_agent]; rwa [heq] at this
        have f : Frame c1 w.1 := frame_agent_write c1 a raw
        by_cases hw : w.2 = true
        · rw [if_pos hw]
          refine .ok hk hc f ha ?_
          rw [connWrite_agent]
          have := (akeys_start_ok _ id _ hs id).mpr (.inr rfl); rwa [heq] at this
        · rw [if_neg hw]
          exact .failed _ true hk ((back f).trans (frame_agent _ _)) (.trans ha (agentKept_stop _ id)) hc

theorem start_outs (c : Client) (id : TID) (raw : Bytes) (hd : Option Nat) :
    ∀ x ∈ (c.start id raw hd).2.2, x = .write raw hd := by
  cases hd with
  | none => rw [start_none]; split <;> simp
  | some h =>
    have o := start_outcome c id raw h
    generalize c.start id raw (some h) = r at o ⊢
    cases o with
    | rejected => simp
    | ok => simp
    | failed => exact fun _ => mem_wrote

theorem tick_eq (c : Client) (t : Nat) :
    c.tick t = ({ c with now := t, agent := (c.agent.collect t).1 } : Client).callbacks
      ((c.agent.collect t).2.2.map fun e => (e.id, CEv.timeout)) := rfl

theorem readFrom_raw (d : Bytes) : (readerMsg.readFrom d).1.raw = d.take 1024 := by
  unfold Msg.readFrom Msg.decode
  simp only [readerMsg, List.length_replicate]
  split <;> (simp only [Msg.raw]; rw [List.take_left])

-- rewrite with this and with `deliver_cases` together: a projection reduced while `c.deliver d` still stands beside it
-- makes Lean evaluate the reader's 1024-byte buffer
theorem step_deliver (c : Client) (d : Bytes) : c.step (.deliver d) = ((c.deliver d).1, none, (c.deliver d).2) := rfl

-- `r` a variable, to be given as `rfl`: with `c.deliver d` in its place the last step would be that evaluation
theorem step_deliver_outs {c : Client} {d : Bytes} {r} (hr : c.deliver d = r) : (c.step (.deliver d)).2.2 = r.2 := by
  rw [step_deliver, hr]

theorem deliverDecoded_cases (c : Client) (tid : TID) (raw : Bytes) :
    c.deliverDecoded tid raw = (c, []) ∨
    ((c.agent.process tid).2.1 = none ∧
      c.deliverDecoded tid raw = ({ c with agent := (c.agent.process tid).1 } : Client).callback tid (.msg raw)) := by
  unfold Client.deliverDecoded
  split
  · exact .inl rfl
  · next hp => exact .inr ⟨hp, rfl⟩

theorem deliver_cases (c : Client) (d : Bytes) :
    c.deliver d = (c, []) ∨
    ((readerMsg.readFrom d).2 = .ok () ∧
      c.deliver d = c.deliverDecoded (readerMsg.readFrom d).1.tid (readerMsg.readFrom d).1.raw) := by
  unfold Client.deliver
  split
  · next hok => exact .inr ⟨hok, rfl⟩
  · exact .inl rfl

theorem close_closed (c : Client) (hc : c.closed = true) : c.close = (c, some .clientClosed, []) := by
  unfold Client.close; rw [if_pos hc]

/-- the callbacks that `Close` runs: on the closed client, one for each closed event of `Agent.Close` -/
def closeCallbacks (c : Client) : Client × List COut :=
  ({ c with closed := true, agent := c.agent.close.1 } : Client).callbacks
    (c.agent.close.2.2.map fun e => (e.id, CEv.agentClosed))

theorem close_eq (c : Client) (hc : c.closed = false) :
    c.close = ((closeCallbacks c).1,
      (if (closeCallbacks c).1.agentCloseErr || ((closeCallbacks c).1.closeConn && (closeCallbacks c).1.connCloseErr)
        then some .closeErr else none),
      if (closeCallbacks c).1.closeConn then (closeCallbacks c).2 ++ [.connClose] else (closeCallbacks c).2) := by
  unfold Client.close closeCallbacks
  simp only [hc, Bool.false_eq_true, if_false]

theorem callbacks_nil (c : Client) : c.callbacks [] = (c, []) := rfl

theorem callbacks_cons (c : Client) (id : TID) (e : CEv) (r : List (TID × CEv)) :
    c.callbacks ((id, e) :: r) =
      (((c.callback id e).1.callbacks r).1, (c.callback id e).2 ++ ((c.callback id e).1.callbacks r).2) := rfl

/-- what every callback keeps, whatever the table looks like: the closed flag, the ownership option, the agent's closed
    flag -/
theorem callback_kept (c : Client) (id : TID) (e : CEv) :
    (c.callback id e).1.closed = c.closed ∧ (c.callback id e).1.closeConn = c.closeConn ∧
    (c.callback id e).1.agent.closed = c.agent.closed := by
  have o := callback_outcome c id e
  generalize c.callback id e = r at o ⊢
  cases o with
  | ignored | fallback | completed => exact ⟨rfl, rfl, rfl⟩
  | retransmitted _ _ _ _ _ o => cases o with
    | written f a => exact ⟨f.closed, f.closeConn, a.closed⟩
    | failed _ _ _ f a => exact ⟨f.closed, f.closeConn, a.closed⟩

theorem callbacks_kept (evs : List (TID × CEv)) (c : Client) :
    (c.callbacks evs).1.closed = c.closed ∧ (c.callbacks evs).1.closeConn = c.closeConn ∧
    (c.callbacks evs).1.agent.closed = c.agent.closed := by
  induction evs generalizing c with
  | nil => exact ⟨rfl, rfl, rfl⟩
  | cons ev r ih =>
    obtain ⟨id, e⟩ := ev
    obtain ⟨a1, a2, a3⟩ := callback_kept c id e
    obtain ⟨b1, b2, b3⟩ := ih (c.callback id e).1
    rw [callbacks_cons]
    exact ⟨b1.trans a1, b2.trans a2, b3.trans a3⟩

theorem callbacks_closed (evs : List (TID × CEv)) (c : Client) (hc : c.closed = true) :
    ∀ x ∈ (c.callbacks evs).2, ∃ h id e, (id, e) ∈ evs ∧ x = COut.call h id e := by
  induction evs generalizing c with
  | nil => rw [callbacks_nil]; nofun
  | cons ev r ih =>
    obtain ⟨id, e⟩ := ev
    have hc1 := (callback_kept c id e).1.trans hc
    have hcb := callback_closed c id e hc
    rw [callbacks_cons]
    intro x hx
    rcases List.mem_append.mp hx with hx | hx
    · rw [hcb] at hx
      cases hl : c.lookup id with
      | none => rw [hl] at hx; simp at hx
      | some tx => rw [hl] at hx; exact ⟨tx.h, id, e, List.mem_cons_self, List.mem_singleton.mp hx⟩
    · obtain ⟨h, id', e', hm, rfl⟩ := ih _ hc1 x hx
      exact ⟨h, id', e', List.mem_cons_of_mem _ hm, rfl⟩

theorem callback_closed_fst (c : Client) (id : TID) (e : CEv) (hc : c.closed = true) : (c.callback id e).1 = c.erase id := by
  rw [callback_closed c id e hc]
  cases hl : c.lookup id with
  | some tx => rfl
  | none =>
    show c = { c with t := (c.erase id).t }
    rw [erase_absent ((lookup_none_iff c id).mp hl)]

/-- the callbacks of a closed client only erase: exactly the entries whose id had no event are left -/
theorem callbacks_closed_eq (evs : List (TID × CEv)) (c : Client) (hc : c.closed = true) :
    (c.callbacks evs).1 = { c with t := c.t.filter fun p => !(evs.map (·.1)).contains p.1 } := by
  induction evs generalizing c with
  | nil =>
    show c = { c with t := c.t.filter fun _ => true }
    rw [List.filter_eq_self.mpr fun _ _ => rfl]
  | cons ev r ih =>
    obtain ⟨id, e⟩ := ev
    rw [callbacks_cons]
    rw [ih _ ((callback_kept c id e).1.trans hc), callback_closed_fst c id e hc]
    simp [Client.erase, List.filter_filter, Bool.and_comm, bne]

theorem closeCallbacks_closeConn (c : Client) : (closeCallbacks c).1.closeConn = c.closeConn :=
  (callbacks_kept _ _).2.1

theorem closeCallbacks_calls (c : Client) : ∀ x ∈ (closeCallbacks c).2, ∃ h id, x = COut.call h id .agentClosed := by
  intro x hx
  obtain ⟨h', id', e', hm, rfl⟩ := callbacks_closed _ _ rfl x hx
  obtain ⟨ev, _, hev⟩ := List.mem_map.mp hm
  exact ⟨h', id', by rw [← (Prod.mk.inj hev).2]⟩

theorem close_flags (c : Client) (hc : c.closed = false) :
    (c.close).1.closed = true ∧ (c.close).1.agent.closed = true := by
  have hag : (c.agent.close).1.closed = true := by unfold Agent.close; split <;> simp_all
  rw [close_eq c hc]
  exact ⟨(callbacks_kept _ _).1, (callbacks_kept _ _).2.2.trans hag⟩

/-- `Close` invokes handlers only with ErrAgentClosed, and writes nothing -/
theorem close_outs (c : Client) (hc : c.closed = false) :
    ∀ x ∈ (c.close).2.2, (∃ h id, x = COut.call h id .agentClosed) ∨ (x = COut.connClose ∧ c.closeConn = true) := by
  rw [close_eq c hc]
  dsimp only
  rw [closeCallbacks_closeConn]
  intro x hx
  split at hx
  · next hcc =>
    rcases List.mem_append.mp hx with hx | hx
    · exact .inl (closeCallbacks_calls c x hx)
    · exact .inr ⟨List.mem_singleton.mp hx, hcc⟩
  · exact .inl (closeCallbacks_calls c x hx)

theorem closed_after_close (c : Client) : (c.step .close).1.closed = true := by
  by_cases hc : c.closed = true
  · rw [show c.step .close = c.close from rfl, close_closed c hc]; exact hc
  · exact (close_flags c (by simpa using hc)).1

end Stun.ClientProofs
