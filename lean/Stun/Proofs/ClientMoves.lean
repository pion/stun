/-
  `Moves`: a few primitive moves on the transaction table (complete an entry, retry it, register a new one, or change
  only what no table property looks at: `Frame`), closed under sequencing. A property of histories is a rule induction
  over `Moves` whose cases are the primitive moves; that the code makes such moves is said in ClientHistory.
  `Moves` records what happens to the table and what is emitted, not who may move: that only an open client retries,
  registers or indicates, when the fallback handler is used, why an entry is completed. Such facts are read off the
  outcomes (ClientCallback).
-/
import Stun.Proofs.ClientBase
namespace Stun.ClientProofs
open Stun Stun.Client

/-- `Moves cl c S o c'`: the client gets from `c` to `c'` emitting `o`, with `S` the `Start`s (with a handler) made on the
    way; `cl` says whether a `Close` may be among the moves -/
inductive Moves : Bool → Client → List (Nat × TID × Bytes) → List COut → Client → Prop
  | refl {cl} (c) : Moves cl c [] [] c
  | trans {cl c S o c' S' o' c''} (m1 : Moves cl c S o c') (m2 : Moves cl c' S' o' c'') : Moves cl c (S ++ S') (o ++ o') c''
  | frame {cl c c'} (f : Frame c c') : Moves cl c [] [] c'
  /-- the transaction found under `id` is finished: its handler is called -/
  | complete {cl c id tx} (e : CEv) (hl : c.lookup id = some tx) : Moves cl c [] [.call tx.h id e] (c.erase id)
  /-- … or registered again with one attempt more, which is only done while attempts are left, and (unless the agent
      refuses it) written again. The two go together: between them the write budget would not balance -/
  | retry {cl c id tx} (w : Bool) (hl : c.lookup id = some tx) (hlt : tx.attempt < c.maxAttempts) :
      Moves cl c [] (wrote w tx.raw tx.h) ((c.erase id).insert (next tx))
  | fallback {cl c} (id : TID) (e : CEv) : Moves cl c [] [.fallback id e] c
  /-- a `Start` that succeeds -/
  | register {cl c} (id raw h) (hk : id ∉ ckeys c) :
      Moves cl c [(h, id, raw)] [.write raw (some h)] (c.insert (started c id raw h))
  /-- a `Start` that fails, before or after its write -/
  | refuse {cl c} (id raw h) (w : Bool) : Moves cl c [(h, id, raw)] (wrote w raw h) c
  | indicate {cl c} (raw : Bytes) : Moves cl c [] [.write raw none] c
  /-- `Close` of an open client: what happens inside happens to a closed client; then the connection is closed if owned -/
  | close {c o c'} (hc : c.closed = false) (m : Moves false { c with closed := true } [] o c') :
      Moves true c [] (if c'.closeConn then o ++ [.connClose] else o) c'

theorem Moves.then_frame {cl c S o c' c''} (h : Moves cl c S o c') (f : Frame c' c'') : Moves cl c S o c'' := by
  have := Moves.trans h (Moves.frame f)
  rwa [List.append_nil, List.append_nil] at this

theorem Moves.frame_then {cl c S o c' c''} (f : Frame c c') (h : Moves cl c' S o c'') : Moves cl c S o c'' :=
  Moves.trans (Moves.frame f) h

theorem Moves.tinv {cl c S o c'} (m : Moves cl c S o c') : TInv c → TInv c' := by
  induction m with
  | refl | fallback | refuse | indicate => exact id
  | trans _ _ ih1 ih2 => exact fun hi => ih2 (ih1 hi)
  | frame f => exact f.tinv
  | complete => exact tinv_erase _
  | @retry _ c id tx _ hl _ =>
    exact fun hi => tinv_insert _ (tinv_erase id hi)
      (by rw [next_id hi hl]; exact not_mem_erase c id)
  | register _ _ _ hk => exact fun hi => tinv_insert _ hi hk
  | @close c _ _ _ _ ih => exact fun hi => ih (tinv_congr (c := c) rfl hi)

theorem Moves.cfg {cl c S o c'} (m : Moves cl c S o c') :
    c'.maxAttempts = c.maxAttempts ∧ c'.closeConn = c.closeConn ∧ c'.hasFallback = c.hasFallback := by
  induction m with
  | trans _ _ ih1 ih2 => exact ⟨ih2.1.trans ih1.1, ih2.2.1.trans ih1.2.1, ih2.2.2.trans ih1.2.2⟩
  | frame f => exact ⟨f.maxAttempts, f.closeConn, f.hasFallback⟩
  | close _ _ ih => exact ih
  | _ => exact ⟨rfl, rfl, rfl⟩

theorem Moves.maxAttempts {cl c S o c'} (m : Moves cl c S o c') : c'.maxAttempts = c.maxAttempts := m.cfg.1
theorem Moves.closeConn {cl c S o c'} (m : Moves cl c S o c') : c'.closeConn = c.closeConn := m.cfg.2.1

/-- two halves: without a `Close` the flag is kept; with or without, a closed client stays closed -/
theorem Moves.closed {cl c S o c'} (m : Moves cl c S o c') :
    (cl = false → c'.closed = c.closed) ∧ (c.closed = true → c'.closed = true) := by
  induction m with
  | trans _ _ ih1 ih2 => exact ⟨fun hk => (ih2.1 hk).trans (ih1.1 hk), fun h => ih2.2 (ih1.2 h)⟩
  | frame f => exact ⟨fun _ => f.closed, fun h => f.closed.trans h⟩
  | close _ _ ih => exact ⟨nofun, fun _ => ih.2 rfl⟩
  | _ => exact ⟨fun _ => rfl, id⟩

def cntS (h : Nat) (S : List (Nat × TID × Bytes)) : Nat := (S.filter (fun x => x.1 == h)).length

theorem cntS_nil (h : Nat) : cntS h [] = 0 := rfl
theorem cntS_append (h : Nat) (S S') : cntS h (S ++ S') = cntS h S + cntS h S' := by
  simp only [cntS, List.filter_append, List.length_append]
theorem cntS_single (h h0 : Nat) (id : TID) (raw : Bytes) : cntS h [(h0, id, raw)] = if h0 == h then 1 else 0 := by
  simp only [cntS, List.filter_cons]; split <;> rfl

/-- `n` is the number of `Start`s with handler `h` that registered it. An equation with a bounded `n`, not an
    inequality: it gives `≤` for every history and `=` for those without such a `Start` -/
theorem Moves.acct {cl c S o c'} (m : Moves cl c S o c') (h : Nat) :
    TInv c → ∃ n, n ≤ cntS h S ∧ calls h o + pend h c' = pend h c + n := by
  induction m with
  | refl | fallback | indicate =>
    exact fun _ => ⟨0, Nat.le_refl _, by rw [show calls h _ = 0 from rfl]; exact Nat.zero_add _⟩
  | refuse _ _ _ w => exact fun _ => ⟨0, Nat.zero_le _, by rw [calls_wrote]; exact Nat.zero_add _⟩
  | trans m1 _ ih1 ih2 =>
    intro hi
    obtain ⟨n1, l1, e1⟩ := ih1 hi
    obtain ⟨n2, l2, e2⟩ := ih2 (m1.tinv hi)
    exact ⟨n1 + n2, cntS_append .. ▸ Nat.add_le_add l1 l2, by rw [calls_append]; omega⟩
  | frame f =>
    exact fun _ => ⟨0, Nat.le_refl _, by rw [pend_congr f.t, show calls h [] = 0 from rfl]; exact Nat.zero_add _⟩
  | @complete _ c id tx e hl =>
    intro hi
    exact ⟨0, Nat.zero_le _, by rw [calls_single_call, ← pend_erase hi hl]; exact Nat.add_comm _ _⟩
  | @retry _ c id tx w hl _ =>
    intro hi
    exact ⟨0, Nat.zero_le _, by rw [calls_wrote, pend_insert, ← pend_erase hi hl]; exact Nat.zero_add _⟩
  | register id raw h0 =>
    intro _
    exact ⟨if h0 == h then 1 else 0, by rw [cntS_single]; exact Nat.le_refl _,
      by rw [pend_insert, show calls h [COut.write raw (some h0)] = 0 from rfl]; exact Nat.zero_add _⟩
  | @close c _ _ _ _ ih =>
    intro hi
    obtain ⟨n, l, e⟩ := ih (tinv_congr (c := c) rfl hi)
    refine ⟨n, l, ?_⟩
    split
    · rw [calls_append, show calls h [COut.connClose] = 0 from rfl]; exact e
    · exact e

/-- `S'` is fixed along the induction: any list that holds `S` and what the entries at the beginning go back to -/
theorem Moves.prov {cl c S o c'} (m : Moves cl c S o c') (S') : TInv c → (∀ x ∈ S, x ∈ S') → FromStarts S' c →
    FromStarts S' c' ∧ (∀ h id e, COut.call h id e ∈ o → ∃ raw, (h, id, raw) ∈ S') ∧
    (∀ raw h, COut.write raw (some h) ∈ o → ∃ id, (h, id, raw) ∈ S') := by
  induction m with
  | refl | fallback | indicate => exact fun _ _ hf => ⟨hf, by simp, by simp⟩
  | refuse id raw h w =>
    refine fun _ hS hf => ⟨hf, fun _ _ _ hm => (nomatch mem_wrote hm), fun raw' h' hm => ⟨id, ?_⟩⟩
    cases mem_wrote hm
    exact hS _ List.mem_cons_self
  | trans m1 _ ih1 ih2 =>
    intro hi hS hf
    obtain ⟨f1, c1, w1⟩ := ih1 hi (fun x hx => hS x (List.mem_append_left _ hx)) hf
    obtain ⟨f2, c2, w2⟩ := ih2 (m1.tinv hi) (fun x hx => hS x (List.mem_append_right _ hx)) f1
    exact ⟨f2, fun h id e hm => (List.mem_append.mp hm).elim (c1 h id e) (c2 h id e),
      fun raw h hm => (List.mem_append.mp hm).elim (w1 raw h) (w2 raw h)⟩
  | frame f => exact fun _ _ hf => ⟨fromStarts_congr f.t hf, by simp, by simp⟩
  | @complete _ c id tx e hl =>
    refine fun hi _ hf => ⟨fromStarts_erase _ hf, fun h id' e' hm => ⟨tx.raw, ?_⟩, by simp⟩
    simp only [List.mem_singleton, COut.call.injEq] at hm
    rw [hm.1, hm.2.1]; exact fromStarts_lookup hi hf hl
  | @retry _ c id tx w hl _ =>
    intro hi _ hf
    have hS := fromStarts_lookup hi hf hl
    refine ⟨fromStarts_insert (fromStarts_erase _ hf)
        (by rw [next_id hi hl]; exact hS),
      fun _ _ _ hm => (nomatch mem_wrote hm), fun raw' h' hm => ⟨id, ?_⟩⟩
    cases mem_wrote hm
    exact hS
  | register id raw h =>
    refine fun _ hS hf => ⟨fromStarts_insert hf (hS _ List.mem_cons_self), by simp, fun raw' h' hm => ⟨id, ?_⟩⟩
    simp only [List.mem_singleton, COut.write.injEq, Option.some.injEq] at hm
    rw [hm.1, hm.2]; exact hS _ List.mem_cons_self
  | @close c _ _ _ _ ih =>
    intro hi hS hf
    obtain ⟨f1, c1, w1⟩ := ih (tinv_congr (c := c) rfl hi) hS hf
    refine ⟨f1, fun h id e hm => c1 h id e ?_, fun raw h hm => w1 raw h ?_⟩ <;>
    · split at hm
      · simpa using hm
      · exact hm

end Stun.ClientProofs

-- `connCloses` is C15's count; it stands here because the induction about it does
namespace Stun.C15

def connCloses (outs : List COut) : Nat := (outs.filter (fun x => x == COut.connClose)).length

theorem connCloses_append (a b : List COut) : connCloses (a ++ b) = connCloses a + connCloses b := by
  simp only [connCloses, List.filter_append, List.length_append]

end Stun.C15

namespace Stun.ClientProofs
open C15

/-- 1 while the client still has to close its connection -/
def closeDue (c : Client) : Nat := if c.closeConn && !c.closed then 1 else 0

/-- the connection is closed by the move that closes the client, if it is owned, and by no other -/
theorem Moves.connCloses_closeDue {cl c S o c'} (m : Moves cl c S o c') : connCloses o + closeDue c' = closeDue c := by
  induction m with
  | trans _ _ ih1 ih2 => rw [connCloses_append, Nat.add_assoc, ih2, ih1]
  | frame f => simp only [closeDue, f.closeConn, f.closed]; exact Nat.zero_add _
  | retry w | refuse _ _ _ w => cases w <;> exact Nat.zero_add _
  | @close c o c' hc m ih =>
    -- inside, the client is closed and nothing is due, so the inner moves close nothing; the `if` at the end pays `closeDue c`
    simp only [closeDue, m.closeConn, m.closed.2 rfl, hc] at ih ⊢
    cases c.closeConn <;> simp_all [connCloses_append] <;> rfl
  | _ => exact Nat.zero_add _

end Stun.ClientProofs
