/-
  The Go decode loop is the RFC TLV grammar, and no slice expression of `Decode` can panic.
  Go's slices are windows `Sl` of a backing array; each checked slice expression succeeds under its guard
  (`Sl.sub?_eq` ...), and one turn of the loop on a window whose bytes start with a TLV header is one unfolding of the
  grammar (`decodeLoop_step`), so the comparison is an induction along the grammar's own recursion.
-/
import Stun.Proofs.Padding
import Stun.Proofs.Bits

theorem List.take_drop_take {α} (l : List α) {len k n : Nat} (h : k + n ≤ len) :
    ((l.take len).drop k).take n = (l.drop k).take n := by
  rw [List.drop_take, List.take_take, Nat.min_eq_left (Nat.le_sub_of_add_le' h)]

namespace Stun.Sl
variable {mem : Bytes} {b : Sl}

theorem sub?_eq {C lo hi : Nat} (h1 : lo ≤ hi) (h2 : b.off + hi ≤ C) :
    b.sub? C lo hi = some ⟨b.off + lo, hi - lo⟩ := if_pos ⟨h1, h2⟩

theorem from?_eq {a : Nat} (h : a ≤ b.len) : b.from? a = some ⟨b.off + a, b.len - a⟩ := if_pos h

theorem to?_eq {C n : Nat} (h : b.off + n ≤ C) : b.to? C n = some ⟨b.off, n⟩ := if_pos h

theorem bytes_length (h : b.off + b.len ≤ mem.length) {l : Bytes} (hb : b.bytes mem = l) : b.len = l.length := by
  subst hb; simp only [bytes, List.length_take, List.length_drop]; omega

theorem bytes_from (mem : Bytes) (b : Sl) (k : Nat) : bytes mem ⟨b.off + k, b.len - k⟩ = (b.bytes mem).drop k := by
  unfold bytes; rw [List.drop_take, List.drop_drop]

theorem be16_drop {k : Nat} (h : k + 2 ≤ b.len) : be16 (mem.drop (b.off + k)) = be16 ((b.bytes mem).drop k) := by
  rw [← bytes_from, bytes, be16_take _ (Nat.le_sub_of_add_le' h)]

end Stun.Sl

namespace Stun.DecodeProofs
open Stun Stun.Spec

def viewOf (a : Attr) : View := ⟨a.typ, a.length, ⟨a.off, a.length⟩⟩

theorem be16_cons (a b : UInt8) (t : Bytes) : be16 (a :: b :: t) = u16 a b := rfl

/-- One turn of the loop on a window that starts with a TLV header. `p` is a variable so that `(p := padded) rfl` fits
    the `let` that `fun_induction tlvs` hands out. -/
theorem decodeLoop_step {mem : Bytes} {size offset : Nat} {b : Sl} {acc : List View}
    {t1 t2 l1 l2 : UInt8} {rest : Bytes} {p : Nat} (hbody : b.bytes mem = t1 :: t2 :: l1 :: l2 :: rest)
    (hcap : b.off + b.len ≤ mem.length) (hsz : offset + b.len = size) (hp : p = u16 l1 l2 + pad4 (u16 l1 l2)) :
    decodeLoop mem size offset b acc =
      if rest.length < p then (acc, .err .attrValue) else
      decodeLoop mem size (offset + 4 + p) ⟨b.off + 4 + p, rest.length - p⟩
        (acc ++ [⟨compat (u16 t1 t2), u16 l1 l2, ⟨b.off + 4, u16 l1 l2⟩⟩]) := by
  subst hp
  have hl : b.len = rest.length + 4 := Sl.bytes_length hcap hbody
  have h4 : 4 ≤ b.len := hl ▸ Nat.le_add_left 4 _
  have e0 : be16 (mem.drop (b.off + 0)) = u16 t1 t2 := by rw [Sl.be16_drop (Nat.le_trans (by decide) h4), hbody]; rfl
  have e2 : be16 (mem.drop (b.off + 2)) = u16 l1 l2 := by rw [Sl.be16_drop h4, hbody]; rfl
  -- the loop goes on, the header is complete, `b[0:2]`, `b[2:4]`, `b[4:]` are in range.
  -- `show`: `rw` must see the guards with the constant folded, as the `Decidable` instances have it
  rw [decodeLoop, dif_pos (by omega), if_neg (show ¬ b.len < attributeHeaderSize from Nat.not_lt.2 h4),
    Sl.sub?_eq (by decide) (by omega), Sl.sub?_eq (by decide) (by omega),
    Sl.from?_eq (show attributeHeaderSize ≤ b.len from h4)]
  simp only [e0, e2, npvl_eq, attributeHeaderSize, Nat.sub_eq_of_eq_add hl]
  by_cases hv : rest.length < u16 l1 l2 + pad4 (u16 l1 l2)
  · rw [if_pos hv, if_pos hv]
  · -- the padded value fits, so `b[:aL]` and `b[aBuffL:]` are in range
    rw [if_neg hv, if_neg hv, Sl.from?_eq (Nat.not_lt.1 hv), Sl.to?_eq (by simp only; omega)]
    rfl   -- here the model's `compatAttrType` meets the specification's `compat`: the same text written twice

theorem bytes_next {mem : Bytes} {b : Sl} {t1 t2 l1 l2 : UInt8} {rest : Bytes}
    (hbody : b.bytes mem = t1 :: t2 :: l1 :: l2 :: rest) (hcap : b.off + b.len ≤ mem.length) {p : Nat}
    (hp : ¬ rest.length < p) :
    Sl.bytes mem ⟨b.off + 4 + p, rest.length - p⟩ = rest.drop p ∧ b.off + 4 + p + (rest.length - p) ≤ mem.length := by
  have hl : b.len = rest.length + 4 := Sl.bytes_length hcap hbody
  refine ⟨?_, by omega⟩
  rw [← Nat.sub_eq_of_eq_add hl, Sl.bytes_from mem ⟨b.off + 4, b.len - 4⟩ p, Sl.bytes_from mem b 4, hbody]; rfl

theorem loop_tlvs (mem : Bytes) (size off : Nat) (body : Bytes) :
    ∀ (offset : Nat) (b : Sl) (acc : List View),
      b.off = off → Sl.bytes mem b = body → b.off + b.len ≤ mem.length → offset + b.len = size →
      match tlvs off body with
      | some as => decodeLoop mem size offset b acc = (acc ++ as.map viewOf, .ok ())
      | none => ∃ e l, decodeLoop mem size offset b acc = (l, .err e) := by
  -- the cases of `tlvs`: 1 no bytes left; 2 a header whose padded value does not fit; 3 it fits and the rest is
  -- refused; 4 it fits and the rest parses; 5 one to three bytes
  fun_induction tlvs off body with
  | case1 off =>
    intro offset b acc _ hbody hcap hsz
    have hl : b.len = 0 := Sl.bytes_length hcap hbody
    rw [decodeLoop, dif_neg (by omega)]; simp only [List.map_nil, List.append_nil]
  | case2 off t1 t2 l1 l2 rest len padded hlt =>
    intro offset b acc _ hbody hcap hsz
    rw [decodeLoop_step hbody hcap hsz (p := padded) rfl, if_pos hlt]; exact ⟨_, _, rfl⟩
  | case3 off t1 t2 l1 l2 rest len padded hlt hrec ih =>
    rintro offset b acc rfl hbody hcap hsz
    have hl : b.len = rest.length + 4 := Sl.bytes_length hcap hbody
    rw [decodeLoop_step hbody hcap hsz (p := padded) rfl, if_neg hlt]
    simp only [hrec] at ih
    obtain ⟨hnext, hcap'⟩ := bytes_next hbody hcap hlt
    exact ih _ _ _ rfl hnext hcap' (by simp only; omega)
  | case4 off t1 t2 l1 l2 rest len padded hlt as hrec ih =>
    rintro offset b acc rfl hbody hcap hsz
    have hl : b.len = rest.length + 4 := Sl.bytes_length hcap hbody
    rw [decodeLoop_step hbody hcap hsz (p := padded) rfl, if_neg hlt]
    simp only [hrec] at ih
    obtain ⟨hnext, hcap'⟩ := bytes_next hbody hcap hlt
    rw [ih _ _ _ rfl hnext hcap' (by simp only; omega), List.append_assoc]; rfl
  | case5 off body h1 h2 =>
    -- the grammar's catch-all: 1 to 3 bytes, too short for a header
    intro offset b acc _ hbody hcap hsz
    have : 0 < b.len ∧ b.len < 4 := by
      rw [Sl.bytes_length hcap hbody]
      match body, h1, h2 with
      | [], h1, _ => exact (h1 rfl).elim
      | [_], _, _ | [_, _], _, _ | [_, _, _], _, _ => simp only [List.length_cons, List.length_nil]; decide
      | _ :: _ :: _ :: _ :: _, _, h2 => exact (h2 _ _ _ _ _ rfl).elim
    rw [decodeLoop, dif_pos (by omega), if_pos (show b.len < attributeHeaderSize from this.2)]
    exact ⟨_, _, rfl⟩

theorem loop_char (mem : Bytes) (size offset : Nat) (b : Sl) (acc : List View)
    (hcap : b.off + b.len ≤ mem.length) (hsz : offset + b.len = size) :
    match tlvs b.off (Sl.bytes mem b) with
    | some as => decodeLoop mem size offset b acc = (acc ++ as.map viewOf, .ok ())
    | none => ∃ e l, decodeLoop mem size offset b acc = (l, .err e) :=
  loop_tlvs mem size b.off _ offset b acc rfl rfl hcap hsz

theorem tlvs_vals {mem : Bytes} {off : Nat} {body : Bytes} :
    ∀ (b : Sl), b.off = off → b.bytes mem = body → b.off + b.len ≤ mem.length →
      ∀ {as}, tlvs off body = some as → ∀ {a}, a ∈ as → Sl.bytes mem ⟨a.off, a.length⟩ = a.val := by
  fun_induction tlvs off body with
  | case1 => intro b _ _ _ as h; cases h; exact nofun
  | case2 | case3 | case5 => intro b _ _ _ as h; cases h
  | case4 off t1 t2 l1 l2 rest len padded hlt as' hrec ih =>
    rintro b rfl hbody hcap as h a ha
    cases h
    have hl : b.len = rest.length + 4 := Sl.bytes_length hcap hbody
    rcases List.mem_cons.1 ha with rfl | ha
    · -- the value window is the start of what follows the header
      have : rest = Sl.bytes mem ⟨b.off + 4, b.len - 4⟩ := by rw [Sl.bytes_from mem b 4, hbody]; rfl
      show (mem.drop (b.off + 4)).take len = rest.take len
      rw [this, Sl.bytes, List.take_take, Nat.min_eq_left (by simp only [padded] at hlt; simp only; omega)]
    · obtain ⟨hnext, hcap'⟩ := bytes_next hbody hcap hlt
      exact ih _ rfl hnext hcap' hrec ha

/-- `decodeRaw` on at least a header's worth of bytes, with every slice expression discharged and the tests spelt as
    `rfcParse` spells them (`cookie` is `magicCookie`, 20 is `messageHeaderSize`) -/
theorem decodeRaw_eq {mem : Bytes} {len : Nat} (hcap : len ≤ mem.length) (hl : 20 ≤ len) :
    decodeRaw mem len =
      if be32 (mem.drop 4) ≠ cookie then (none, .err .cookie) else
      if len < 20 + be16 (mem.drop 2) then (none, .err .msgSize) else
      (some ⟨⟨fig3Method (be16 mem), fig3Class (be16 mem), be16 (mem.drop 2), Sl.bytes mem ⟨8, 12⟩⟩,
          (decodeLoop mem (be16 (mem.drop 2)) 0 ⟨20, be16 (mem.drop 2)⟩ []).1⟩,
        (decodeLoop mem (be16 (mem.drop 2)) 0 ⟨20, be16 (mem.drop 2)⟩ []).2) := by
  unfold decodeRaw
  rw [if_neg (show ¬ (⟨0, len⟩ : Sl).len < messageHeaderSize from Nat.not_lt.2 hl),
    Sl.sub?_eq (by decide) (by simp only; omega), Sl.sub?_eq (by decide) (by simp only; omega),
    Sl.sub?_eq (by decide) (by simp only; omega)]
  simp only [Nat.zero_add, List.drop_zero, C19.readValue_eq_rfc]
  -- the two sides test cookie and size alike; the last two slices are in range once the size test is passed
  refine ite_congr rfl (fun _ => rfl) (fun _ => ite_congr rfl (fun _ => rfl) (fun hs => ?_))
  rw [Sl.sub?_eq (by decide) (by simp only [messageHeaderSize]; omega),
    Sl.sub?_eq (Nat.le_add_right _ _) (by simp only [messageHeaderSize]; omega)]
  simp only [Nat.zero_add, Nat.add_sub_cancel_left]
  rfl

/-- `Decode` on `m.Raw = mem[0:len]` (any capacity) is exactly the RFC parse of the visible bytes, and never panics. -/
theorem decodeRaw_char (mem : Bytes) (len : Nat) (hcap : len ≤ mem.length) :
    match rfcParse (mem.take len) with
    | some p => decodeRaw mem len
        = (some ⟨⟨p.method, p.cls, p.length, p.tid⟩, p.attrs.map viewOf⟩, .ok ())
    | none => ∃ d e, decodeRaw mem len = (d, .err e) := by
  unfold rfcParse
  rw [List.length_take, Nat.min_eq_left hcap]
  by_cases h20 : len < 20
  · rw [if_pos h20]; exact ⟨_, _, by unfold decodeRaw; exact if_pos h20⟩
  · have hl : 20 ≤ len := Nat.not_lt.1 h20
    -- the header fields of the visible bytes are those of the array
    have e0 : be16 (mem.take len) = be16 mem := be16_take _ (by omega)
    have e2 : be16 ((mem.take len).drop 2) = be16 (mem.drop 2) := by rw [List.drop_take, be16_take _ (by omega)]
    have e4 : be32 ((mem.take len).drop 4) = be32 (mem.drop 4) := by rw [List.drop_take, be32_take _ (by omega)]
    rw [if_neg h20, decodeRaw_eq hcap hl, e0, e2, e4]
    by_cases hc : be32 (mem.drop 4) ≠ cookie
    · rw [if_pos hc, if_pos hc]; exact ⟨_, _, rfl⟩
    · rw [if_neg hc, if_neg hc]
      by_cases hs : len < 20 + be16 (mem.drop 2)
      · rw [if_pos hs, if_pos hs]; exact ⟨_, _, rfl⟩
      · have hle := Nat.not_lt.1 hs
        rw [if_neg hs, if_neg hs, List.take_drop_take mem hle, List.take_drop_take mem hl]
        have key := loop_char mem _ 0 ⟨20, be16 (mem.drop 2)⟩ [] (Nat.le_trans hle hcap) (Nat.zero_add _)
        dsimp only [Sl.bytes] at key
        revert key
        cases tlvs 20 ((mem.drop 20).take (be16 (mem.drop 2))) with
        | none => intro ⟨e, l, hk⟩; rw [hk]; exact ⟨_, _, rfl⟩
        | some as => intro key; rw [key]; rfl

section
variable {mem : Bytes} {len : Nat} (hcap : len ≤ mem.length)
include hcap

theorem decodeRaw_of_parse {p : Parsed} (hp : rfcParse (mem.take len) = some p) :
    decodeRaw mem len = (some ⟨⟨p.method, p.cls, p.length, p.tid⟩, p.attrs.map viewOf⟩, .ok ()) := by
  have key := decodeRaw_char mem len hcap; rw [hp] at key; exact key

theorem decodeRaw_of_none (hp : rfcParse (mem.take len) = none) : ∃ d e, decodeRaw mem len = (d, .err e) := by
  have key := decodeRaw_char mem len hcap; rw [hp] at key; exact key

theorem decodeRaw_ok {d : Option Decoded} (h : decodeRaw mem len = (d, .ok ())) :
    ∃ p, rfcParse (mem.take len) = some p ∧
      d = some ⟨⟨p.method, p.cls, p.length, p.tid⟩, p.attrs.map viewOf⟩ := by
  cases hp : rfcParse (mem.take len) with
  | none => obtain ⟨d', e, hk⟩ := decodeRaw_of_none hcap hp; rw [hk] at h; cases h
  | some p => rw [decodeRaw_of_parse hcap hp] at h; cases h; exact ⟨p, rfl, rfl⟩

end

theorem tlvs_tlvBytes {t : Nat} {v p : Bytes} (ht : t < 65536) (hv : v.length < 65536) (hp : p.length = pad4 v.length)
    (off : Nat) (rest : Bytes) :
    tlvs off (tlvBytes t v p ++ rest) =
      (tlvs (off + 4 + v.length + p.length) rest).map (⟨compat t, v.length, v, off + 4⟩ :: ·) := by
  have e : tlvBytes t v p ++ rest = UInt8.ofNat (t / 256) :: UInt8.ofNat t :: UInt8.ofNat (v.length / 256) ::
      UInt8.ofNat v.length :: (v ++ (p ++ rest)) := by
    simp only [tlvBytes, put16, List.append_assoc, List.cons_append, List.nil_append]
  rw [e, tlvs]
  simp only [u16_ofNat hv, u16_ofNat ht, ← hp]
  have hd : (v ++ (p ++ rest)).drop (v.length + p.length) = rest := by
    rw [← List.append_assoc, ← List.length_append, List.drop_left]
  rw [if_neg (by simp only [List.length_append]; omega), List.take_left, hd, ← Nat.add_assoc]
  cases tlvs (off + 4 + v.length + p.length) rest <;> rfl

theorem tlvs_complete (xs : List (Nat × Bytes × Bytes)) (off : Nat) (h : PadsOK xs) :
    tlvs off (serialize xs) = some (attrsOf off xs) := by
  induction xs generalizing off with
  | nil => rw [serialize, tlvs, attrsOf]
  | cons x r ih =>
    obtain ⟨t, v, p⟩ := x
    obtain ⟨ht, hv, hp, hr⟩ := h
    rw [serialize, tlvs_tlvBytes ht hv hp, ih _ hr]; rfl

theorem tlvs_sound (off : Nat) (body : Bytes) : ∀ as, tlvs off body = some as →
    ∃ xs, PadsOK xs ∧ body = serialize xs ∧ as = attrsOf off xs := by
  fun_induction tlvs off body with
  | case1 off => intro as h; cases h; exact ⟨[], trivial, rfl, rfl⟩
  | case2 | case3 | case5 => intro as h; cases h
  | case4 off t1 t2 l1 l2 rest len padded hlt as' hrec ih =>
    intro as h
    cases h
    simp only [padded, len] at hlt hrec ih ⊢
    have hn : u16 l1 l2 < 65536 := u16_lt _ _
    generalize hL : u16 l1 l2 = n at hlt hrec ih hn ⊢
    obtain ⟨xs, hok, hser, has⟩ := ih _ hrec
    have hle : n + pad4 n ≤ rest.length := Nat.not_lt.1 hlt
    have hvl : (rest.take n).length = n := List.length_take_of_le (Nat.le_trans (Nat.le_add_right ..) hle)
    have hpl : ((rest.drop n).take (pad4 n)).length = pad4 n :=
      List.length_take_of_le (by rw [List.length_drop]; exact Nat.le_sub_of_add_le' hle)
    refine ⟨(u16 t1 t2, rest.take n, (rest.drop n).take (pad4 n)) :: xs,
      ⟨u16_lt _ _, by rw [hvl]; exact hn, by rw [hvl, hpl], hok⟩, ?_, ?_⟩
    · -- `rest` is value ++ padding ++ what the recursive call parsed
      have : rest = rest.take n ++ ((rest.drop n).take (pad4 n) ++ rest.drop (n + pad4 n)) := by
        rw [← List.drop_drop, List.take_append_drop, List.take_append_drop]
      simp only [serialize, tlvBytes, hvl, ← hser, List.append_assoc]
      rw [← this, ← hL, put16_u16, put16_u16]; rfl
    · simp only [attrsOf, hvl, hpl, has, Nat.add_assoc]

theorem attrsOf_append (xs ys : List (Nat × Bytes × Bytes)) (off : Nat) :
    attrsOf off (xs ++ ys) = attrsOf off xs ++ attrsOf (off + (serialize xs).length) ys := by
  induction xs generalizing off with
  | nil => simp [attrsOf, serialize]
  | cons x r ih =>
    obtain ⟨t, v, p⟩ := x
    simp only [List.cons_append, attrsOf, ih, serialize_cons_length, List.cons.injEq, true_and]
    congr 2; omega

/-- the attributes are consecutive TLVs from `pos` to `endp`: each value starts 4 bytes after the previous padded value
    ends, and has its declared length, which fits 16 bits -/
def AChain (endp : Nat) : Nat → List Attr → Prop
  | pos, [] => pos = endp
  | pos, a :: r =>
    a.off = pos + 4 ∧ a.val.length = a.length ∧ a.length < 65536 ∧ AChain endp (a.off + a.length + pad4 a.length) r

theorem attrsOf_chain (xs : List (Nat × Bytes × Bytes)) (off : Nat) (h : PadsOK xs) :
    AChain (off + (serialize xs).length) off (attrsOf off xs) := by
  induction xs generalizing off with
  | nil => exact rfl
  | cons x r ih =>
    obtain ⟨t, v, p⟩ := x
    obtain ⟨_, hv, hp, hr⟩ := h
    refine ⟨rfl, rfl, hv, ?_⟩
    rw [serialize_cons_length, ← hp, ← Nat.add_assoc, ← Nat.add_assoc, ← Nat.add_assoc]
    exact ih _ hr

/-- every attribute advances the chain by at least its 4-byte header -/
theorem AChain_count {endp pos : Nat} {as : List Attr} (h : AChain endp pos as) : pos + 4 * as.length ≤ endp := by
  induction as generalizing pos with
  | nil => exact Nat.le_of_eq h
  | cons a r ih => have := ih h.2.2.2; have := h.1; simp only [List.length_cons]; omega

theorem AChain_bounds {endp pos : Nat} {as : List Attr} (h : AChain endp pos as) {a : Attr} (ha : a ∈ as) :
    pos + 4 ≤ a.off ∧ a.off + a.length + pad4 a.length ≤ endp ∧ a.val.length = a.length ∧ a.length < 65536 := by
  induction as generalizing pos with
  | nil => cases ha
  | cons x r ih =>
    obtain ⟨h1, h2, hl, h3⟩ := h
    rcases List.mem_cons.1 ha with rfl | ha
    · exact ⟨Nat.le_of_eq h1.symm, Nat.le_trans (Nat.le_add_right ..) (AChain_count h3), h2, hl⟩
    · obtain ⟨i1, i23⟩ := ih h3 ha
      exact ⟨by omega, i23⟩

theorem AChain_pairwise {endp pos : Nat} {as : List Attr} (h : AChain endp pos as) :
    as.Pairwise (fun a b => a.off + a.length + pad4 a.length + 4 ≤ b.off) := by
  induction as generalizing pos with
  | nil => exact .nil
  | cons a r ih => exact .cons (fun b hb => (AChain_bounds h.2.2.2 hb).1) (ih h.2.2.2)

end Stun.DecodeProofs
