/-
  One retransmission, one callback, a list of callbacks and a tick of the collector, each summed up in a single
  record (`StepSpec`, `CbSpec`): read off from the outcomes and from what moves preserve. Nothing rests on these.
-/
import Stun.Proofs.ClientHistory
namespace Stun.ClientProofs
open Stun Stun.Client

/-- what one run of `retransmit` may do. `c` is the client after the entry found was erased, so that registering it again
    adds `extra` -/
structure StepSpec (c : Client) (id : TID) (h0 : Nat) (raw0 : Bytes) (extra : Nat → Nat) (r : Client × List COut) : Prop where
  inv : TInv r.1
  count : ∀ h, calls h r.2 + pend h r.1 = pend h c + extra h
  closedSame : r.1.closed = c.closed
  cfgSame : r.1.maxAttempts = c.maxAttempts ∧ r.1.closeConn = c.closeConn ∧ r.1.now = c.now ∧
            r.1.hasFallback = c.hasFallback ∧ r.1.rto = c.rto
  callOwn : ∀ h id' e', COut.call h id' e' ∈ r.2 → id' = id ∧ h = h0
  writeOwn : ∀ raw h, COut.write raw h ∈ r.2 → raw = raw0 ∧ h = some h0
  noFallback : ∀ id' e', COut.fallback id' e' ∉ r.2
  noConnClose : COut.connClose ∉ r.2
  keys : ∀ id', id' ≠ id → (id' ∈ ckeys r.1 ↔ id' ∈ ckeys c)
  entries : ∀ p ∈ r.1.t, p ∈ c.t ∨ (p.2.h = h0 ∧ p.2.id = id ∧ p.2.raw = raw0)

/-- all outputs of an event are justified by the start list -/
structure OutsOK (S : List (Nat × TID × Bytes)) (c : Client) (outs : List COut) : Prop where
  call : ∀ h id e, COut.call h id e ∈ outs → ∃ raw, (h, id, raw) ∈ S
  write : ∀ raw h, COut.write raw (some h) ∈ outs → ∃ id, (h, id, raw) ∈ S
  writeNone : ∀ raw, COut.write raw none ∉ outs
  fallback : ∀ id e, COut.fallback id e ∈ outs → c.hasFallback = true ∧ e ≠ .stopped
  noConnClose : COut.connClose ∉ outs

theorem retransmit_spec (c : Client) (hi : TInv c) (tx : Txn) (id : TID) (htx : tx.id = id) (hk : id ∉ ckeys c) :
    StepSpec c id tx.h tx.raw (fun h => if tx.h == h then 1 else 0) (retransmit c tx id) := by
  subst htx
  have o := retransmit_outcome c tx tx.id
  generalize retransmit c tx tx.id = r at o ⊢
  cases o with
  | written f _ _ clock =>
    exact {
      inv := f.tinv (tinv_insert (next tx) hi hk)
      count := fun h => by rw [pend_congr f.t, pend_insert]; exact Nat.zero_add _
      closedSame := f.closed
      cfgSame := ⟨f.maxAttempts, f.closeConn, clock.1, f.hasFallback, clock.2⟩
      callOwn := by simp
      writeOwn := by simp
      noFallback := by simp
      noConnClose := by simp
      keys := fun id' hne => by rw [ckeys_congr f.t, ckeys_insert]; exact or_iff_left hne
      entries := fun p hp => by
        rw [f.t] at hp
        rcases List.mem_append.mp hp with hp | hp
        · exact .inl hp
        · rw [List.mem_singleton.mp hp]; exact .inr ⟨rfl, rfl, rfl⟩ }
  | failed w e' _ f _ clock =>
    have f' := (frame_erase_insert (tx := next tx) hk).trans f
    exact {
      inv := f'.tinv hi
      count := fun h => by rw [pend_congr f'.t, calls_append, calls_wrote, calls_single_call]; omega
      closedSame := f'.closed
      cfgSame := ⟨f'.maxAttempts, f'.closeConn, clock.1, f'.hasFallback, clock.2⟩
      callOwn := fun h id' e'' hm => by cases w <;> simp at hm <;> exact ⟨hm.2.1, hm.1⟩
      writeOwn := fun raw' h' hm => by cases w <;> simp at hm; exact hm
      noFallback := by cases w <;> simp
      noConnClose := by cases w <;> simp
      keys := fun id' _ => by rw [ckeys_congr f'.t]
      entries := fun p hp => .inl (f'.t ▸ hp) }

structure CbSpec (S : List (Nat × TID × Bytes)) (c : Client) (r : Client × List COut) : Prop where
  inv : TInv r.1
  from_ : FromStarts S r.1
  count : ∀ h, calls h r.2 + pend h r.1 = pend h c
  closedSame : r.1.closed = c.closed
  cfgSame : r.1.maxAttempts = c.maxAttempts ∧ r.1.closeConn = c.closeConn ∧ r.1.now = c.now ∧
            r.1.hasFallback = c.hasFallback ∧ r.1.rto = c.rto
  outs : OutsOK S c r.2

/-- what `Moves` does not record: the clock, and the outputs that no table property speaks of -/
structure CbRest (c : Client) (r : Client × List COut) : Prop where
  clock : r.1.now = c.now ∧ r.1.rto = c.rto
  writeNone : ∀ raw, COut.write raw none ∉ r.2
  fallback : ∀ id e, COut.fallback id e ∈ r.2 → c.hasFallback = true ∧ e ≠ .stopped
  noConnClose : COut.connClose ∉ r.2

theorem callback_rest (c : Client) (id : TID) (e : CEv) : CbRest c (c.callback id e) := by
  have o := callback_outcome c id e
  generalize c.callback id e = r at o ⊢
  cases o with
  | ignored | completed => exact ⟨⟨rfl, rfl⟩, by simp, by simp, by simp⟩
  | fallback _ _ hfb he => exact ⟨⟨rfl, rfl⟩, by simp, by simpa using ⟨hfb, he⟩, by simp⟩
  | retransmitted _ _ _ _ _ o => cases o with
    | written _ _ _ clock => exact ⟨clock, by simp, by simp, by simp⟩
    | failed w _ _ _ _ clock => exact ⟨clock, by cases w <;> simp, by cases w <;> simp, by cases w <;> simp⟩

theorem callbacks_rest (evs : List (TID × CEv)) (c : Client) (hi : TInv c) : CbRest c (c.callbacks evs) := by
  induction evs generalizing c with
  | nil => exact ⟨⟨rfl, rfl⟩, nofun, nofun, nofun⟩
  | cons ev r ih =>
    obtain ⟨id, e⟩ := ev
    have m := callback_moves (cl := false) c hi id e
    have r1 := callback_rest c id e
    have r2 := ih _ (m.tinv hi)
    rw [callbacks_cons]
    exact ⟨⟨r2.clock.1.trans r1.clock.1, r2.clock.2.trans r1.clock.2⟩,
      fun raw hm => (List.mem_append.mp hm).elim (r1.writeNone raw) (r2.writeNone raw),
      fun id' e' hm => (List.mem_append.mp hm).elim (r1.fallback id' e') fun hm => m.cfg.2.2 ▸ r2.fallback id' e' hm,
      fun hm => (List.mem_append.mp hm).elim r1.noConnClose r2.noConnClose⟩

theorem cbSpec_of_moves {S} {c : Client} {r : Client × List COut} (hi : TInv c) (hf : FromStarts S c)
    (m : Moves false c [] r.2 r.1) (rest : CbRest c r) : CbSpec S c r := by
  obtain ⟨p1, p2, p3⟩ := m.prov S hi nofun hf
  obtain ⟨c1, c2, c3⟩ := m.cfg
  refine ⟨m.tinv hi, p1, fun h => ?_, m.closed.1 rfl, ⟨c1, c2, rest.clock.1, c3, rest.clock.2⟩, p2, p3, rest.writeNone,
    rest.fallback, rest.noConnClose⟩
  obtain ⟨n, hn, e⟩ := m.acct h hi
  rw [cntS_nil] at hn
  omega

theorem callback_spec (S) (c : Client) (hi : TInv c) (hf : FromStarts S c) (id : TID) (e : CEv) :
    CbSpec S c (c.callback id e) :=
  cbSpec_of_moves hi hf (callback_moves c hi id e) (callback_rest c id e)

theorem callbacks_spec (S) (evs : List (TID × CEv)) (c : Client) (hi : TInv c) (hf : FromStarts S c) :
    CbSpec S c (c.callbacks evs) :=
  cbSpec_of_moves hi hf (callbacks_moves evs c hi) (callbacks_rest evs c hi)

theorem tick_spec (S) (c : Client) (hi : TInv c) (hf : FromStarts S c) (t : Nat) :
    TInv (c.tick t).1 ∧ FromStarts S (c.tick t).1 ∧ (∀ h, calls h (c.tick t).2 + pend h (c.tick t).1 = pend h c) ∧
    (c.tick t).1.closed = c.closed ∧ OutsOK S c (c.tick t).2 := by
  rw [tick_eq]
  have s := callbacks_spec S ((c.agent.collect t).2.2.map fun e => (e.id, CEv.timeout))
    { c with now := t, agent := (c.agent.collect t).1 } (tinv_congr (c := c) rfl hi) hf
  exact ⟨s.inv, s.from_, s.count, s.closedSame, s.outs.call, s.outs.write, s.outs.writeNone, s.outs.fallback,
    s.outs.noConnClose⟩

end Stun.ClientProofs
