/-
  L2 accounting (C10): handler invocations + pending table entries ≤ Starts, over states with suspended calls (a
  retransmission inside ClientAgent.Start or Connection.Write, a Start inside its first Write); with `=` and the number
  of `Start`s that registered, except where the error path of a `Start` whose first write blocked forgets its entry.
  One induction over `Reach`, whose cases hand an L1 move to `Moves.acct` / `Moves.prov`. Every suspended call carries
  the transaction it registered (`SuspOK`); its second half finishes that transaction only if it is still the one
  registered under its id, and then makes L1's move `complete` (`Inv2.finish`). `run2_spec` is the statement for
  histories.
-/
import Stun.Proofs.ClientL2Reach
namespace Stun.ClientProofs
open Stun Stun.Client

structure SuspOK (S : List (Nat × TID × Bytes)) (s : Susp) : Prop where
  h_eq : s.h = s.tx.h
  id_eq : s.tx.id = s.id
  prov : (s.tx.h, s.tx.id, s.tx.raw) ∈ S

structure Inv2 (S : List (Nat × TID × Bytes)) (k : Client2) : Prop where
  inv : TInv k.c
  from_ : FromStarts S k.c
  susp : ∀ s ∈ k.susp, SuspOK S s

theorem SuspOK.same {S} {s s' : Susp} (h : SuspOK S s) (hh : s'.h = s.h) (hid : s'.id = s.id) (htx : s'.tx = s.tx) :
    SuspOK S s' :=
  ⟨by rw [hh, htx]; exact h.h_eq, by rw [hid, htx]; exact h.id_eq, by rw [htx]; exact h.prov⟩

theorem inv2_mono (S S') (k : Client2) (hk : Inv2 S k) (hsub : ∀ x ∈ S, x ∈ S') : Inv2 S' k :=
  ⟨hk.inv, fromStarts_mono hk.from_ hsub,
    fun s hs => ⟨(hk.susp s hs).h_eq, (hk.susp s hs).id_eq, hsub _ (hk.susp s hs).prov⟩⟩

theorem Inv2.head {S} {k : Client2} (hk : Inv2 S k) {s rest} (h : k.susp = s :: rest) : SuspOK S s :=
  hk.susp s (h ▸ List.mem_cons_self)

theorem Inv2.tail {S} {k : Client2} (hk : Inv2 S k) {s rest} (h : k.susp = s :: rest) : ∀ x ∈ rest, SuspOK S x :=
  fun x hx => hk.susp x (h ▸ List.mem_cons_of_mem _ hx)

/-- the handler a suspended call invokes is that of the transaction it carries -/
theorem Inv2.finish {S} {k k' : Client2} (hk : Inv2 S k) {s rest} (h : k.susp = s :: rest) (e : CEv)
    (hcur : k.c.lookup s.id = some s.tx) (f : Frame (k.c.erase s.id) k'.c) :
    Moves true k.c [] [.call s.h s.id e] k'.c := by
  rw [(hk.head h).h_eq]; exact (Moves.complete e hcur).then_frame f

/-- the shape of the cases of `Reach.acct`: an L1 move on `k.c`, accounted for by `Moves.acct` / `Moves.prov`, and a
    change of the suspended list, for which the case supplies `hs` -/
theorem acct_of_moves {k k' : Client2} {st o} (m : Moves true k.c st o k'.c) (S : List (Nat × TID × Bytes))
    (hst : ∀ x ∈ st, x ∈ S) (hk : Inv2 S k) (hs : ∀ s ∈ k'.susp, SuspOK S s) (fg : Bool) :
    Inv2 S k' ∧ (∀ h id e, COut.call h id e ∈ o → ∃ raw, (h, id, raw) ∈ S) ∧
    ∀ h, ∃ n, n ≤ cntS h st ∧ calls h o + pend h k'.c ≤ pend h k.c + n ∧
      (fg = false → calls h o + pend h k'.c = pend h k.c + n) := by
  obtain ⟨p1, p2, _⟩ := m.prov S hk.inv hst hk.from_
  refine ⟨⟨m.tinv hk.inv, p1, hs⟩, p2, fun h => ?_⟩
  obtain ⟨n, hn, e⟩ := m.acct h hk.inv
  exact ⟨n, hn, Nat.le_of_eq e, fun _ => e⟩

/-- `S`: every `Start` there will ever be, a fixed universe as in `Moves.prov`. `n` as in `Moves.acct`; the balance is
    an inequality only where an entry is forgotten, which is in `Start`'s own error path (`releaseStart_reach`) -/
theorem Reach.acct {M D fg} {k k' : Client2} {st o} (hr : Reach M D fg k st o k') (S : List (Nat × TID × Bytes))
    (hst : ∀ x ∈ st, x ∈ S) (hk : Inv2 S k) :
    Inv2 S k' ∧ (∀ h id e, COut.call h id e ∈ o → ∃ raw, (h, id, raw) ∈ S) ∧
    ∀ h, ∃ n, n ≤ cntS h st ∧ calls h o + pend h k'.c ≤ pend h k.c + n ∧
      (fg = false → calls h o + pend h k'.c = pend h k.c + n) := by
  induction hr with
  | trans _ _ ih1 ih2 =>
    obtain ⟨hst1, hst2⟩ := List.forall_mem_append.mp hst
    obtain ⟨i1, j1, c1⟩ := ih1 hst1 hk
    obtain ⟨i2, j2, c2⟩ := ih2 hst2 i1
    refine ⟨i2, fun h id e hm => (List.mem_append.mp hm).elim (j1 h id e) (j2 h id e), fun h => ?_⟩
    obtain ⟨n1, l1, le1, e1⟩ := c1 h
    obtain ⟨n2, l2, le2, e2⟩ := c2 h
    refine ⟨n1 + n2, cntS_append .. ▸ Nat.add_le_add l1 l2, ?_, fun hf => ?_⟩ <;> rw [calls_append]
    · omega
    · have := e1 hf; have := e2 hf; omega
  | lift hm hs _ => exact acct_of_moves (hm hk.inv) S hst hk (hs ▸ hk.susp) _
  | @suspend _ k k' id tx w d hl hleft f hs =>
    have hid : tx.id = id := lookup_id hk.inv hl
    have hS : (tx.h, tx.id, tx.raw) ∈ S := hid ▸ fromStarts_lookup hk.inv hk.from_ hl
    exact acct_of_moves ((Moves.retry w hl hleft).then_frame f) S hst hk
      (hs ▸ forall_mem_concat.mpr ⟨hk.susp, rfl, hid, hS⟩) _
  | startSusp hk' f hs =>
    exact acct_of_moves ((Moves.register _ _ _ hk').then_frame f) S hst hk
      (hs ▸ forall_mem_concat.mpr ⟨hk.susp, rfl, rfl, hst _ List.mem_cons_self⟩) _
  | setRest r _ hk' f hs =>
    obtain ⟨hinit, hlast⟩ := forall_mem_concat.mp (hk' ▸ hk.susp)
    exact acct_of_moves (.frame f) S hst hk (hs ▸ forall_mem_concat.mpr ⟨hinit, hlast.same rfl rfl rfl⟩) _
  | pop hk' f hs => exact acct_of_moves (.frame f) S hst hk (hs ▸ hk.tail hk') _
  | @agentStarted _ k k' s rest hk' _ f hs =>
    -- the late write is no move of L1; it invokes nobody
    obtain ⟨i, _, c⟩ := acct_of_moves (.frame f) S hst hk
      (hs ▸ List.forall_mem_cons.mpr ⟨(hk.head hk').same rfl rfl rfl, hk.tail hk'⟩) _
    exact ⟨i, by simp, c⟩
  | finish e _ hk' hcur f hs => exact acct_of_moves (hk.finish hk' e hcur f) S hst hk (hs ▸ hk.tail hk') _
  | @forget k k' id f hs =>
    refine ⟨⟨f.tinv (tinv_erase id hk.inv), fromStarts_congr f.t (fromStarts_erase id hk.from_), hs ▸ hk.susp⟩,
      by simp, fun h => ⟨0, Nat.zero_le _, ?_, nofun⟩⟩
    rw [pend_congr f.t, pend_eq, pend_eq, show calls h [] = 0 from rfl, Nat.zero_add]
    exact tabW_erase_le _ k.c id

/-- where no entry is forgotten and no `Start` is made the account balances: so for a callback, a list of callbacks, a
    tick, a release of a retransmission and the second halves `retransmitPost` / `retransmitEnd` (their `_reach`
    lemmas hold for every `fg`), whatever is suspended -/
theorem Reach.acct_eq {M D} {k k' : Client2} {o} (hr : Reach M D false k [] o k') {S} (hk : Inv2 S k) (h : Nat) :
    calls h o + pend h k'.c = pend h k.c := by
  obtain ⟨n, hn, _, e⟩ := (hr.acct S nofun hk).2.2 h
  rw [Nat.le_zero.mp hn] at e
  exact e rfl

/-- the form the history theorems state -/
theorem Reach.acct_le {M D fg} {k k' : Client2} {st o} (hr : Reach M D fg k st o k') (S : List (Nat × TID × Bytes))
    (hst : ∀ x ∈ st, x ∈ S) (hk : Inv2 S k) :
    Inv2 S k' ∧ (∀ h id e, COut.call h id e ∈ o → ∃ raw, (h, id, raw) ∈ S) ∧
    ∀ h, calls h o + pend h k'.c ≤ pend h k.c + cntS h st :=
  have ⟨i, j, c⟩ := hr.acct S hst hk
  ⟨i, j, fun h => have ⟨_, hn, le, _⟩ := c h; Nat.le_trans le (Nat.add_le_add_left hn _)⟩

theorem step2_spec (S) (k : Client2) (hk : Inv2 S k) (op : COp2) :
    Inv2 (starts2Of [op] ++ S) (k.step op).1 ∧
    (∀ h id e, COut.call h id e ∈ (k.step op).2.2 → ∃ raw, (h, id, raw) ∈ starts2Of [op] ++ S) ∧
    (∀ h, calls h (k.step op).2.2 + pend h (k.step op).1.c ≤
      pend h k.c + startCount2 h [op]) :=
  Reach.acct_le (step2_reach (M := fun _ _ => True) (D := fun _ _ => True) (fun _ _ _ => trivial) k
    (fun _ _ _ _ _ _ => trivial) op (fun _ _ _ => trivial)) _
    (fun _ hx => List.mem_append_left _ hx) (inv2_mono S _ k hk (fun _ hx => List.mem_append_right _ hx))

/-- whole L2 histories: the invariant holds throughout, every invocation is justified by a `Start` of the history,
    and invocations plus pending entries never exceed the `Start`s -/
theorem run2_spec (ops : List COp2) : ∀ (S) (k : Client2), Inv2 S k →
    Inv2 (starts2Of ops ++ S) (k.run ops).1 ∧
    (∀ h id e, COut.call h id e ∈ (k.run ops).2 → ∃ raw, (h, id, raw) ∈ starts2Of ops ++ S) ∧
    (∀ h, calls h (k.run ops).2 + pend h (k.run ops).1.c ≤ pend h k.c + startCount2 h ops) :=
  fun S k hk => Reach.acct_le (run2_reach_any ops k) _ (fun _ hx => List.mem_append_left _ hx)
    (inv2_mono S _ k hk (fun _ hx => List.mem_append_right _ hx))

theorem inv2_empty (S) (k : Client2) (ht : k.c.t = []) (hs : k.susp = []) : Inv2 S k :=
  ⟨tinv_congr ht tinv_init, by intro p hp; simp [ht] at hp, by intro s h; simp [hs] at h⟩

end Stun.ClientProofs
