/-
  C17, the lemmas the round trip rests on. First, format then parse: Atoi after Itoa, SplitHostPort after JoinHostPort,
  url.Parse and parseProto on what URI.String writes; these are cases of the general statements in
  `Proofs/URIParse.lean`. Then the bytes of a host: the character classes, and what url.Parse leaves in the opaque part
  and SplitHostPort in the host of an accepted URI.
-/
import Stun.Proofs.URIParse
namespace Stun.C17
open Stun Stun.URI

theorem atoi_itoa (p : Int) (h0 : 0 ≤ p) (h1 : p ≤ 65535) : atoi (itoa p) = some p :=
  atoi_itoa_of_nonneg p h0 (by omega)

theorem splitHostPort_join (host ds : Str)
    (hh : ∀ b ∈ host, b ≠ chr ':' ∧ b ≠ chr '[' ∧ b ≠ chr ']')
    (hd : ∀ b ∈ ds, b ≠ chr ':' ∧ b ≠ chr '[' ∧ b ≠ chr ']') :
    splitHostPort (host ++ chr ':' :: ds) = .ok (host, ds) :=
  have hall := List.forall_mem_append.mpr ⟨hh, hd⟩
  splitHostPort_plain (fun hm => (hall _ hm).1 rfl) (fun hm => (hall _ hm).2.1 rfl) (fun hm => (hall _ hm).2.2 rfl)

theorem splitHostPort_join_bracket (host ds : Str)
    (hh : ∀ b ∈ host, b ≠ chr '[' ∧ b ≠ chr ']')
    (hd : ∀ b ∈ ds, b ≠ chr ':' ∧ b ≠ chr '[' ∧ b ≠ chr ']') :
    splitHostPort (chr '[' :: (host ++ chr ']' :: chr ':' :: ds)) = .ok (host, ds) :=
  have hall := List.forall_mem_append.mpr ⟨hh, fun b hb => (hd b hb).2⟩
  splitHostPort_bracket (fun hm => (hd _ hm).1 rfl) (fun hm => (hall _ hm).1 rfl) (fun hm => (hall _ hm).2 rfl)

theorem urlParse_rootless (sch : Scheme) (opq q : Str) (withQ : Bool)
    (hopq : ∀ b ∈ opq, Plain b ∧ b ≠ chr '?') (_hne : opq ≠ []) (hhead : opq.head? ≠ some (chr '/'))
    (hq : ∀ b ∈ q, Plain b ∧ b ≠ chr '?') (hqne : withQ = true → q ≠ []) (hq0 : withQ = false → q = []) :
    urlParse (sch.str ++ chr ':' :: (opq ++ (if withQ then chr '?' :: q else []))) = .rootless sch.str opq q := by
  have hs : cut (chr '?') (opq ++ if withQ then chr '?' :: q else []) = (opq, q, withQ) := by
    cases withQ
    · rw [hq0 rfl]; simpa using cut_of_not_mem fun hm => (hopq _ hm).2 rfl
    · exact cut_append fun hm => (hopq _ hm).2 rfl
  rw [urlParse_of_scheme sch.str_ne_nil sch.str_alpha ?_ (by rw [hs]; exact hhead), hs, sch.str_toLower]
  refine List.forall_mem_append.mpr ⟨fun b hb => (hopq b hb).1, ?_⟩
  cases withQ
  · exact fun _ hb => nomatch hb
  · exact List.forall_mem_cons.mpr ⟨⟨by decide, by decide⟩, fun b hb => (hq b hb).1⟩

theorem query_clean (p : Proto) : ∀ b ∈ lit "transport=" ++ p.str, Plain b ∧ b ≠ chr '?' := by
  unfold Plain; cases p <;> decide +kernel

theorem parseProto_transport (p : Proto) : parseProto (lit "transport=" ++ p.str) = .ok (some p) := by
  have hk : lit "transport=" = lit "transport" ++ [chr '='] := by decide
  have hp : p.str ≠ [] := by cases p <;> decide
  rw [hk, List.append_assoc, List.singleton_append, parseProto,
    parseQuery_pair (by decide) (by cases p <;> decide)]
  simp [valuesGet_singleton, hp, newProtoType_str]

def isRegChar (b : UInt8) : Bool := isAlpha b || isDigit b || b == chr '.' || b == chr '-' || b == chr '_'

theorem forall_uint8 (P : UInt8 → Prop) (h : ∀ n, n < 256 → P (UInt8.ofNat n)) : ∀ b, P b := by
  intro b
  simpa using h b.toNat (UInt8.toNat_lt b)

/-- a byte that can occur in the host of an accepted URI: not '#', not a control byte (url.Parse rejects those or cuts
    there), not '?' (the query starts there), not a bracket (net.SplitHostPort rejects those inside a host) -/
def HostChar (b : UInt8) : Prop := Plain b ∧ b ≠ chr '?' ∧ b ≠ chr '[' ∧ b ≠ chr ']'
instance : DecidablePred HostChar := fun b => by unfold HostChar; infer_instance

theorem regChar_hostChar : ∀ b : UInt8, isRegChar b = true → HostChar b ∧ b ≠ chr '/' ∧ b ≠ chr ':' := by
  unfold HostChar Plain
  apply forall_uint8
  decide +kernel

-- a digit is one of the characters of the table above
theorem digit_hostChar : ∀ b : UInt8, isDigit b = true → HostChar b ∧ b ≠ chr ':' := fun b h =>
  have r := regChar_hostChar b (by simp [isRegChar, h])
  ⟨r.1, r.2.2⟩

theorem urlParse_opq_chars (raw scheme opq q : Str) (h : urlParse raw = .rootless scheme opq q) :
    ∀ b ∈ opq, Plain b ∧ b ≠ chr '?' := by
  obtain ⟨sc, rest, f, hctl, hg, _, hq⟩ := urlParse_rootless_inv h
  obtain ⟨hnoq, hpre⟩ := cut_spec (chr '?') rest
  obtain ⟨hnoh, _⟩ := cut_spec (chr '#') raw
  rw [hq] at hnoq hpre
  intro b hb
  have hbu := (getScheme_rest hg).subset (hpre.subset hb)
  refine ⟨⟨fun e => hnoh (e ▸ hbu), ?_⟩, fun e => hnoq (e ▸ hb)⟩
  simpa using List.any_eq_false.mp hctl b hbu

theorem splitHostPort_host (hp host p : Str) (h : splitHostPort hp = .ok (host, p)) :
    (∀ b ∈ host, b ∈ hp) ∧ (∀ b ∈ host, b ≠ chr '[' ∧ b ≠ chr ']') := by
  obtain ⟨hf, _, ho, hc⟩ := splitHostPort_ok_inv h
  refine ⟨fun b hb => ?_, fun b hb =>
    ⟨fun e => ho (e ▸ List.mem_append_left _ hb), fun e => hc (e ▸ List.mem_append_left _ hb)⟩⟩
  rcases hf with ⟨rfl, _⟩ | rfl
  · exact List.mem_append_left _ hb
  · exact List.mem_cons_of_mem _ (List.mem_append_left _ hb)

end Stun.C17
