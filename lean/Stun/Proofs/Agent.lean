/-
  The agent, method by method. A closed agent refuses every call (`C13.after_close`); of an open one each method is one
  equation (`C13.start_open` .. `C13.close_open`). Then the ids registered with an agent: the keys of its transaction
  table, `Agent.has` as membership in them, and which of them each method the client calls keeps (`AgentKept`).
  `Close` is not an `AgentKept` (it changes `closed`): what it reports is read off `C13.close_spec`.
-/
import Stun.Model.Agent

namespace Stun.C13
open Stun Stun.Agent

theorem after_close (a : Agent) (hc : a.closed = true) (op : AOp) : a.step op = (a, some .closed, []) := by
  cases op <;> simp [Agent.step, Agent.start, Agent.stop, Agent.process, Agent.collect, Agent.setHandler,
    Agent.close, hc]

theorem start_open (a : Agent) (hc : a.closed = false) (id : TID) (d : Nat) :
    a.start id d = if a.has id then (a, some .exists) else ({ a with table := a.table ++ [(id, d)] }, none) := by
  simp [Agent.start, hc]

theorem stop_open (a : Agent) (hc : a.closed = false) (id : TID) :
    a.stop id = (a.del id, if a.has id then (none, [⟨a.hgen, id, .stopped⟩]) else (some .notExists, [])) := by
  unfold Agent.stop
  rw [hc, if_neg Bool.false_ne_true]
  split <;> rfl

theorem process_open (a : Agent) (hc : a.closed = false) (id : TID) :
    a.process id = (a.del id, none, [⟨a.hgen, id, .msg (a.has id)⟩]) := by
  simp [Agent.process, hc]

theorem collect_open (a : Agent) (hc : a.closed = false) (t : Nat) :
    a.collect t = ({ a with table := a.table.filter (fun p => ¬ p.2 < t) }, none,
      (a.table.filter (fun p => p.2 < t)).map (fun p => ⟨a.hgen, p.1, .timeout⟩)) := by
  simp [Agent.collect, hc]

theorem setHandler_open (a : Agent) (hc : a.closed = false) :
    a.setHandler = ({ a with hgen := a.hgen + 1 }, none) := by
  simp [Agent.setHandler, hc]

theorem close_open (a : Agent) (hc : a.closed = false) :
    a.close = ({ a with closed := true, table := [] }, none, a.table.map (fun p => ⟨a.hgen, p.1, .closed⟩)) := by
  simp [Agent.close, hc]

/-- Collect(t) emits a timeout for exactly the transactions whose deadline is strictly before t
    (a deadline equal to t is not collected) and keeps exactly the others -/
theorem collect_spec (a : Agent) (hc : a.closed = false) (t : Nat) :
    (a.collect t).2.1 = none ∧
    (a.collect t).2.2 = (a.table.filter (fun p => p.2 < t)).map (fun p => ⟨a.hgen, p.1, .timeout⟩) ∧
    (a.collect t).1.table = a.table.filter (fun p => ¬ p.2 < t) := by
  rw [collect_open a hc]; exact ⟨rfl, rfl, rfl⟩

/-- Close emits a closed event for exactly the remaining transactions -/
theorem close_spec (a : Agent) (hc : a.closed = false) :
    (a.close).2.1 = none ∧ (a.close).2.2 = a.table.map (fun p => ⟨a.hgen, p.1, .closed⟩) ∧
    (a.close).1.closed = true ∧ (a.close).1.table = [] := by
  rw [close_open a hc]; exact ⟨rfl, rfl, rfl, rfl⟩

theorem run_cons (a : Agent) (op : AOp) (r : List AOp) :
    a.run (op :: r) = (((a.step op).1.run r).1, (op, (a.step op).2) :: ((a.step op).1.run r).2) := rfl

end Stun.C13

namespace Stun.ClientProofs
open Stun

def akeys (a : Agent) : List TID := a.table.map (·.1)

theorem has_iff (a : Agent) (id : TID) : a.has id = true ↔ id ∈ akeys a := by
  simp [Agent.has, akeys]

theorem mem_keys_filter {β : Type} (l : List (TID × β)) (id id' : TID) :
    id' ∈ (l.filter (fun p => p.1 != id)).map (·.1) ↔ id' ∈ l.map (·.1) ∧ id' ≠ id := by
  simp only [List.mem_map, List.mem_filter, bne_iff_ne]
  exact ⟨fun ⟨p, ⟨hp, hne⟩, e⟩ => ⟨⟨p, hp, e⟩, e ▸ hne⟩, fun ⟨⟨p, hp, e⟩, hne⟩ => ⟨p, ⟨hp, e ▸ hne⟩, e⟩⟩

theorem akeys_del (a : Agent) (id id' : TID) : id' ∈ akeys (a.del id) ↔ id' ∈ akeys a ∧ id' ≠ id :=
  mem_keys_filter a.table id id'

/-- `a'` is as open or closed as `a` and still holds every id of `a` except, possibly, those of `ids`.
    (`.trans` wants the same `ids` on both sides and there is no weakening: `agentKept_start` takes `ids` for that.) -/
structure AgentKept (a a' : Agent) (ids : List TID) : Prop where
  closed : a'.closed = a.closed
  keys : ∀ x ∈ akeys a, x ∈ akeys a' ∨ x ∈ ids

theorem AgentKept.refl (a : Agent) (ids : List TID) : AgentKept a a ids := ⟨rfl, fun _ h => .inl h⟩

theorem AgentKept.trans {a a' a'' : Agent} {ids : List TID} (h1 : AgentKept a a' ids) (h2 : AgentKept a' a'' ids) :
    AgentKept a a'' ids :=
  ⟨h2.closed.trans h1.closed, fun x hx => (h1.keys x hx).elim (h2.keys x) .inr⟩

theorem akeys_start_ok (a : Agent) (id : TID) (d : Nat) (h : (a.start id d).2 = none) (id' : TID) :
    id' ∈ akeys (a.start id d).1 ↔ id' ∈ akeys a ∨ id' = id := by
  unfold Agent.start at h ⊢
  by_cases hc : a.closed = true
  · simp [hc] at h
  · by_cases hh : a.has id = true
    · simp [hc, hh] at h
    · simp [hc, hh, akeys, eq_comm]

theorem agentKept_start (a : Agent) (id : TID) (d : Nat) (ids : List TID) : AgentKept a (a.start id d).1 ids := by
  unfold Agent.start
  split
  · exact .refl a ids
  · split
    · exact .refl a ids
    · refine ⟨rfl, fun x hx => .inl ?_⟩
      show x ∈ (a.table ++ [(id, d)]).map (·.1)
      rw [List.map_append]; exact List.mem_append_left _ hx

theorem agentKept_del (a : Agent) (id : TID) : AgentKept a (a.del id) [id] :=
  ⟨rfl, fun x hx => (Decidable.em (x = id)).elim (fun e => .inr (List.mem_singleton.mpr e))
    fun hne => .inl ((akeys_del a id x).mpr ⟨hx, hne⟩)⟩

theorem agentKept_stop (a : Agent) (id : TID) : AgentKept a (a.stop id).1 [id] := by
  unfold Agent.stop
  split
  · exact .refl a _
  · split <;> exact agentKept_del a id

theorem agentKept_process (a : Agent) (id : TID) : AgentKept a (a.process id).1 [id] := by
  unfold Agent.process
  split
  · exact .refl a _
  · exact agentKept_del a id

theorem agentKept_collect (a : Agent) (t : Nat) : AgentKept a (a.collect t).1 ((a.collect t).2.2.map (·.id)) := by
  unfold Agent.collect
  split
  · exact .refl a _
  · refine ⟨rfl, fun x hx => ?_⟩
    obtain ⟨p, hp, rfl⟩ := List.mem_map.mp hx
    by_cases hd : p.2 < t
    · exact .inr (List.mem_map.mpr ⟨⟨a.hgen, p.1, .timeout⟩,
        List.mem_map.mpr ⟨p, List.mem_filter.mpr ⟨hp, by simpa using hd⟩, rfl⟩, rfl⟩)
    · exact .inl (List.mem_map.mpr ⟨p, List.mem_filter.mpr ⟨hp, by simpa using hd⟩, rfl⟩)

end Stun.ClientProofs
