/-
  Write budget of the client (C11): over a whole history, a request is written at most maxAttempts+1 times.
  Potential argument: `budget M h c` = sum over the registered transactions of handler `h` of the attempts they have
  left; every write for `h` is paid for either by a `Start` with that handler (M+1 units: one for the first write, M for
  retransmissions) or by one unit of budget.
-/
import Stun.Proofs.ClientHistory
namespace Stun.ClientProofs
open Stun Stun.Client

/-- writes that belong to handler `h` -/
def wr (h : Nat) (outs : List COut) : Nat :=
  (outs.filter (fun o => match o with | .write _ (some h') => h' == h | _ => false)).length

theorem wr_append (h : Nat) (a b : List COut) : wr h (a ++ b) = wr h a + wr h b := by
  simp [wr, List.filter_append]

theorem wr_write (h h' : Nat) (raw : Bytes) : wr h [COut.write raw (some h')] = if h' == h then 1 else 0 := by
  simp only [wr, List.filter_cons]; split <;> rfl

theorem wr_call (h h' : Nat) (id : TID) (e : CEv) : wr h [COut.call h' id e] = 0 := rfl

theorem wr_wrote (h : Nat) (w : Bool) (raw : Bytes) (h' : Nat) : wr h (wrote w raw h') ≤ if h' == h then 1 else 0 := by
  cases w
  · exact Nat.zero_le _
  · show wr h [COut.write raw (some h')] ≤ _; rw [wr_write]; exact Nat.le_refl _

def budget (M h : Nat) (c : Client) : Nat := tabW (fun tx => if tx.h == h then M - tx.attempt else 0) c

/-- a retransmission takes one unit from the weight of its transaction (`b`: it is one of handler `h`) -/
theorem weight_next {M a : Nat} (b : Bool) (hlt : a < M) :
    (if b then M - (a + 1) else 0) + (if b then 1 else 0) = if b then M - a else 0 := by
  split <;> omega

theorem budget_retry {c : Client} {id : TID} {tx : Txn} (M h : Nat) (hi : TInv c) (hl : c.lookup id = some tx)
    (hlt : tx.attempt < M) :
    budget M h ((c.erase id).insert (next tx)) + (if tx.h == h then 1 else 0) = budget M h c := by
  unfold budget
  rw [tabW_insert, ← tabW_erase _ hi hl, Nat.add_assoc]
  exact congrArg _ (weight_next _ hlt)

theorem Moves.budget_le {cl c S o c'} (m : Moves cl c S o c') (M h : Nat) :
    TInv c → c.maxAttempts = M → wr h o + budget M h c' ≤ budget M h c + (M + 1) * cntS h S := by
  induction m with
  | refl | fallback | indicate =>
    exact fun _ _ => by rw [show wr h _ = 0 from rfl, Nat.zero_add]; exact Nat.le_add_right _ _
  | refuse _ raw h0 w =>
    intro _ _
    have := wr_wrote h w raw h0
    -- `(M + 1) * k` expanded, so that the test on the handler stays one atom for `omega`
    rw [cntS_single, Nat.add_one_mul]
    omega
  | trans m1 _ ih1 ih2 =>
    intro hi hM
    have e1 := ih1 hi hM
    have e2 := ih2 (m1.tinv hi) (m1.maxAttempts.trans hM)
    rw [cntS_append, wr_append, Nat.mul_add]; omega
  | frame f =>
    intro _ _
    unfold budget
    rw [tabW_congr _ f.t, show wr h [] = 0 from rfl, Nat.zero_add]
    exact Nat.le_add_right _ _
  | @complete _ c id _ e =>
    intro _ _
    unfold budget
    rw [wr_call, Nat.zero_add]
    exact Nat.le_add_right_of_le (tabW_erase_le _ c id)
  | @retry _ c id tx w hl hlt =>
    intro hi hM
    have := budget_retry M h hi hl (hM ▸ hlt)
    have := wr_wrote h w tx.raw tx.h
    omega
  | register id raw h0 =>
    intro _ _
    unfold budget
    rw [tabW_insert, wr_write, cntS_single]
    split <;> omega
  | @close c _ _ _ _ ih =>
    intro hi hM
    have e := ih (tinv_congr (c := c) rfl hi) hM
    split
    · rw [wr_append, show wr h [COut.connClose] = 0 from rfl]; exact e
    · exact e

theorem run_budget (M h : Nat) (ops : List COp) (c : Client) (hi : TInv c) (hM : c.maxAttempts = M) :
    wr h (allOuts (run c ops).2) + budget M h (run c ops).1 ≤ budget M h c + (M + 1) * startCount h ops :=
  (run_moves (cl := true) ops c hi fun _ => rfl).budget_le M h hi hM

theorem retransmit_budget (M h : Nat) (c : Client) (tx : Txn) (id : TID) (htx : tx.id = id)
    (hk : id ∉ ckeys c) (hleft : tx.attempt < M) :
    wr h (retransmit c tx id).2 + budget M h (retransmit c tx id).1 ≤
      budget M h c + (if tx.h == h then M - tx.attempt else 0) := by
  subst htx
  unfold budget
  -- with this the three `if`s on the handler are three numbers to `omega`
  have hw := weight_next (tx.h == h) hleft
  have o := retransmit_outcome c tx tx.id
  generalize retransmit c tx tx.id = r at o ⊢
  cases o with
  | written f =>
    rw [tabW_congr _ f.t, tabW_insert, wr_write]
    dsimp only
    omega
  | failed w e' _ f =>
    have := wr_wrote h w tx.raw tx.h
    rw [tabW_congr _ ((frame_erase_insert (tx := next tx) hk).trans f).t, wr_append, wr_call]
    omega

theorem start_budget (M h : Nat) (c : Client) (id : TID) (raw : Bytes) (h0 : Nat) :
    wr h (c.start id raw (some h0)).2.2 + budget M h (c.start id raw (some h0)).1 ≤
      budget M h c + (if h0 == h then M + 1 else 0) := by
  unfold budget
  have o := start_outcome c id raw h0
  generalize c.start id raw (some h0) = r at o ⊢
  cases o with
  | rejected => show 0 + tabW _ c ≤ _; omega
  | ok _ _ f =>
    rw [tabW_congr _ f.t, tabW_insert, wr_write]
    split <;> omega
  | failed _ w _ f =>
    have := wr_wrote h w raw h0
    rw [tabW_congr _ f.t]
    dsimp only
    -- `revert`: `split` has to see the `if` of the hypothesis and that of the goal together
    revert this; split <;> omega

end Stun.ClientProofs
