/-
  `(*Message).Decode` at the level of the Message struct: what the RFC parse reports, unpacked, and the struct
  `Decode` leaves behind, whatever the capacity and the previous contents.
-/
import Stun.Proofs.Decode
import Stun.Model.Message
namespace Stun.DecodeProofs
open Stun Stun.Spec

theorem rfcParse_some {bs : Bytes} {p : Parsed} (h : rfcParse bs = some p) :
    20 + p.length ≤ bs.length ∧ be32 (bs.drop 4) = cookie ∧ p.length = be16 (bs.drop 2) ∧
    tlvs 20 ((bs.drop 20).take p.length) = some p.attrs ∧
    p.method = fig3Method (be16 bs) ∧ p.cls = fig3Class (be16 bs) ∧ p.tid = (bs.drop 8).take 12 := by
  simp only [rfcParse, Option.ite_none_left_eq_some, ne_eq, Decidable.not_not, Nat.not_lt] at h
  obtain ⟨h1, h2, h3, h⟩ := h
  cases ht : tlvs 20 ((bs.drop 20).take (be16 (bs.drop 2))) with
  | none => rw [ht] at h; cases h
  | some as => rw [ht] at h; cases h; exact ⟨h3, h2, rfl, ht, rfl, rfl, rfl⟩

theorem rfcParse_tlvs {bs : Bytes} {p : Parsed} (h : rfcParse bs = some p) :
    ∃ xs, PadsOK xs ∧ bs = bs.take 20 ++ serialize xs ++ bs.drop (20 + p.length) ∧
      (serialize xs).length = p.length ∧ p.attrs = attrsOf 20 xs := by
  obtain ⟨hsz, _, _, ht, _⟩ := rfcParse_some h
  obtain ⟨xs, hok, hser, has⟩ := tlvs_sound _ _ _ ht
  refine ⟨xs, hok, ?_, ?_, has⟩
  · rw [← hser, ← List.drop_drop, List.append_assoc, List.take_append_drop, List.take_append_drop]
  · rw [← hser, List.length_take, List.length_drop]; omega

theorem rfcParse_vals {bs : Bytes} {p : Parsed} (h : rfcParse bs = some p) :
    ∀ a ∈ p.attrs, a.val = (bs.drop a.off).take a.length := by
  obtain ⟨hsz, _, _, ht, _⟩ := rfcParse_some h
  exact fun a ha => (tlvs_vals ⟨20, p.length⟩ rfl rfl hsz ht ha).symm

theorem rfcParse_chain {bs : Bytes} {p : Parsed} (h : rfcParse bs = some p) :
    AChain (20 + p.length) 20 p.attrs := by
  obtain ⟨xs, hok, _, hl, has⟩ := rfcParse_tlvs h
  have := attrsOf_chain xs 20 hok
  rwa [hl, ← has] at this

def attrOfSpec (a : Attr) : RawAttr := ⟨a.typ, a.length, a.val⟩

theorem viewToAttr_viewOf (mem : Bytes) (a : Attr) (h : a.val = (mem.drop a.off).take a.length) :
    Msg.viewToAttr mem (viewOf a) = attrOfSpec a := by
  rw [attrOfSpec, h]; rfl

/-! `setRaw` reuses the array when the data fit and takes a new one of exactly their length otherwise. -/

theorem setRaw_len (m : Msg) (d : Bytes) : (m.setRaw d).len = d.length := by
  unfold Msg.setRaw; split <;> rfl

theorem setRaw_cap (m : Msg) (d : Bytes) : (m.setRaw d).mem.length = max m.mem.length d.length := by
  unfold Msg.setRaw; split
  · simp only [List.length_append, List.length_drop]; omega
  · dsimp only; omega

theorem setRaw_raw (m : Msg) (data : Bytes) : (m.setRaw data).raw = data := by
  unfold Msg.setRaw Msg.raw; split
  · exact List.take_left
  · exact List.take_length

theorem setRaw_len_le (m : Msg) (data : Bytes) : (m.setRaw data).len ≤ (m.setRaw data).mem.length := by
  rw [setRaw_len, setRaw_cap]; exact Nat.le_max_right ..

/-- `Message.Decode` itself never touches the backing array -/
theorem decode_mem (m : Msg) : (m.decode).1.mem = m.mem := by
  unfold Msg.decode; split <;> rfl

theorem decode_len (m : Msg) : (m.decode).1.len = m.len := by
  unfold Msg.decode; split <;> rfl

theorem decodeFrom_cap (m : Msg) (d : Bytes) : (m.decodeFrom d).1.mem.length = max m.mem.length d.length := by
  rw [Msg.decodeFrom, decode_mem, setRaw_cap]

theorem decodeFrom_len (m : Msg) (data : Bytes) : (m.decodeFrom data).1.len = data.length := by
  rw [Msg.decodeFrom, decode_len, setRaw_len]

section
variable {m : Msg} (hcap : m.len ≤ m.mem.length)
include hcap

theorem decode_of_parse {p : Parsed} (hp : rfcParse m.raw = some p) :
    m.decode = ({ m with method := p.method, cls := p.cls, length := p.length, tid := p.tid,
                          attrs := p.attrs.map attrOfSpec }, .ok ()) := by
  unfold Msg.decode
  rw [decodeRaw_of_parse hcap hp]
  -- each window lies inside the visible part, where it shows the bytes the parse reports
  have : ∀ a ∈ p.attrs, (Msg.viewToAttr m.mem ∘ viewOf) a = attrOfSpec a := by
    intro a ha
    have hb := AChain_bounds (rfcParse_chain hp) ha
    have hsz := (rfcParse_some hp).1
    rw [Msg.raw, List.length_take] at hsz
    exact viewToAttr_viewOf m.mem a (by rw [rfcParse_vals hp a ha, Msg.raw, List.take_drop_take _ (by omega)])
  simp only [List.map_map, List.map_congr_left this]

theorem decode_of_none (hp : rfcParse m.raw = none) : ∃ m' e, m.decode = (m', .err e) := by
  obtain ⟨d, e, hk⟩ := decodeRaw_of_none hcap hp
  unfold Msg.decode
  rw [hk]; cases d <;> exact ⟨_, _, rfl⟩

end

theorem decode_no_panic (m : Msg) (hcap : m.len ≤ m.mem.length) : m.decode.2 ≠ .panic := by
  cases hp : rfcParse m.raw with
  | none => obtain ⟨m', e, hk⟩ := decode_of_none hcap hp; rw [hk]; exact nofun
  | some p => rw [decode_of_parse hcap hp]; exact nofun

theorem decodeFrom_of_parse (b : Msg) {data : Bytes} {p : Parsed} (h : rfcParse data = some p) :
    b.decodeFrom data = ({ b.setRaw data with method := p.method, cls := p.cls, length := p.length, tid := p.tid,
                                               attrs := p.attrs.map attrOfSpec }, .ok ()) :=
  decode_of_parse (setRaw_len_le b data) ((setRaw_raw b data).symm ▸ h)

theorem decodeFrom_of_none (b : Msg) {data : Bytes} (h : rfcParse data = none) :
    ∃ m' e, b.decodeFrom data = (m', .err e) :=
  decode_of_none (setRaw_len_le b data) ((setRaw_raw b data).symm ▸ h)

end Stun.DecodeProofs

namespace Stun.C02
open Stun Stun.Spec Stun.DecodeProofs

/-- completeness: any header with the cookie and the right length field, followed by any padded TLV sequence and
    any trailing bytes, is accepted, and the attributes reported are exactly those TLVs in order -/
theorem rfcParse_complete (hdr trailing : Bytes) (xs : List (Nat × Bytes × Bytes))
    (hh : hdr.length = 20) (hc : be32 (hdr.drop 4) = cookie) (hl : be16 (hdr.drop 2) = (serialize xs).length)
    (hok : PadsOK xs) :
    rfcParse (hdr ++ serialize xs ++ trailing)
      = some ⟨fig3Method (be16 hdr), fig3Class (be16 hdr), (serialize xs).length, (hdr.drop 8).take 12,
              attrsOf 20 xs⟩ := by
  -- every header field is read inside `hdr`; the body is what follows it
  have hd : ∀ k, k ≤ 20 → (hdr ++ (serialize xs ++ trailing)).drop k = hdr.drop k ++ (serialize xs ++ trailing) :=
    fun k hk => List.drop_append_of_le_length (hh ▸ hk)
  have hbody : ((hdr ++ (serialize xs ++ trailing)).drop 20).take (serialize xs).length = serialize xs := by
    rw [← hh, List.drop_left, List.take_left]
  unfold rfcParse
  -- cookie, length field, type and transaction id as `hdr` has them; then the two size tests pass
  rw [List.append_assoc, hd 4 (by decide), hd 2 (by decide), hd 8 (by decide),
    be32_append _ _ (by rw [List.length_drop, hh]; decide), be16_append _ _ (by rw [List.length_drop, hh]; decide),
    be16_append _ _ (by rw [hh]; decide), hc, hl, List.take_append_of_le_length (by rw [List.length_drop, hh]; decide)]
  simp only [hbody, tlvs_complete xs 20 hok, List.length_append, hh, ne_eq, not_true_eq_false, if_false]
  rw [if_neg (by omega), if_neg (by omega)]

end Stun.C02
