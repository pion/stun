/-
  The moves of the L2 client. Every L2 operation is a sequence of moves of the L1 client (`Moves`) and of a few moves
  that suspend a call or resume it; `Reach` is the closure of these under sequencing, labelled with the `Start`s
  performed and the outputs produced. Like `Moves`, `Reach` says what happens to the table and what is emitted, not
  what happens to the agent. `step2_reach` / `run2_reach` walk the state machine once; a property of L2 histories that
  speaks of the table and the outputs is then an induction over `Reach`, one case per kind of move (ClientL2Acct,
  ClientL2Writes, ClientL2Msg).
-/
import Stun.Model.ClientL2
import Stun.Proofs.ClientMsg
import Stun.Proofs.ClientHistory
namespace Stun.ClientProofs
open Stun Stun.Client

def starts2Of : List COp2 → List (Nat × TID × Bytes)
  | [] => []
  | .l1 (.start id raw (some h)) :: r => (h, id, raw) :: starts2Of r
  | .startBlocked id raw h :: r => (h, id, raw) :: starts2Of r
  | _ :: r => starts2Of r

def startCount2 (h : Nat) (ops : List COp2) : Nat := ((starts2Of ops).filter (fun x => x.1 == h)).length

theorem starts2Of_l1 (op : COp) : starts2Of [.l1 op] = startsOf [op] := by
  cases op with
  | start id raw handler => cases handler <;> rfl
  | _ => rfl

theorem starts2Of_cons (op : COp2) (r : List COp2) : starts2Of (op :: r) = starts2Of [op] ++ starts2Of r := by
  cases op with
  | l1 op1 =>
    cases op1 with
    | start id raw h => cases h <;> rfl
    | _ => rfl
  | _ => rfl

/-- where a message invocation can come from: the datagram processed by this very step -/
def MsgSrc (op : COp2) (id : TID) (raw : Bytes) : Prop :=
  op = .deliverDecoded id raw ∨
  ∃ d, op = .l1 (.deliver d) ∧ raw = d.take 1024 ∧ id = (readerMsg.readFrom d).1.tid ∧ (readerMsg.readFrom d).2 = .ok ()

/-- the message events among `evs` are among `M`; with `fun _ _ => False` for `M`: there is none -/
def Allowed (M : TID → Bytes → Prop) (evs : List (TID × CEv)) : Prop := ∀ ev ∈ evs, ∀ raw, ev.2 = .msg raw → M ev.1 raw

theorem Allowed.nil {M : TID → Bytes → Prop} : Allowed M [] := nofun

/-- the events parked behind suspended calls, which a later `release` runs through `handleAgentCallback`. The model
    parks only what is left of a `Collect`, so from a state without parked messages there never is one:
    `ParkedOK (fun _ _ => False)` is kept by every step (`step2_msg`) -/
def ParkedOK (M : TID → Bytes → Prop) (k : Client2) : Prop := ∀ s ∈ k.susp, Allowed M s.rest

/-- `Reach M D fg k st o k'`: the client gets from `k` to `k'` performing the `Start`s `st` and producing the outputs
    `o`.
    `D id raw` stands for "the datagram `raw`, which carries the id `id`, may be handed to a handler" and bounds the
    message invocations in `o` (`Reach.msg`); `M` bounds the messages parked on the way (`Reach.parkedOK`). The walk
    asks `M ⊆ D`, since what is parked is run later; the accounting takes `fun _ _ => True` for both.
    `fg` says whether `forget` may be among the moves, the one move that takes an entry from the table without
    invoking its handler: without it the accounting is an equation (`Reach.acct`).
    Besides the moves of the L1 client there are those that suspend a call and resume it. They say what happens to
    the table and the suspended calls, and leave free what a `Frame` leaves free, and the block lists. -/
inductive Reach (M D : TID → Bytes → Prop) : Bool → Client2 → List (Nat × TID × Bytes) → List COut → Client2 → Prop
  | trans {fg k k1 k2 s1 s2 o1 o2} :
      Reach M D fg k s1 o1 k1 → Reach M D fg k1 s2 o2 k2 → Reach M D fg k (s1 ++ s2) (o1 ++ o2) k2
  /-- moves of the L1 client, the suspended calls staying as they are; `callback_moves` and `step_moves` want the
      table invariant, which the walk does not have and every property proof has -/
  | lift {fg k k' st o} (hm : TInv k.c → Moves true k.c st o k'.c) (hs : k'.susp = k.susp)
      (hd : ∀ h id raw, COut.call h id (.msg raw) ∈ o → D id raw) : Reach M D fg k st o k'
  /-- a retransmission registers its transaction again (attempt advanced) and is suspended: inside
      `Connection.Write` (`w`), or before `ClientAgent.Start` without having written -/
  | suspend {fg k k' id tx} (w : Bool) (d : Nat) (hl : k.c.lookup id = some tx) (hleft : tx.attempt < k.c.maxAttempts)
      (f : Frame ((k.c.erase id).insert (next tx)) k'.c)
      (hs : k'.susp = k.susp ++ [{ kind := if w then .retransmit else .agentStart, h := tx.h, id := id,
                                   tx := next tx, deadline := d }]) :
      Reach M D fg k [] (wrote w tx.raw tx.h) k'
  /-- `Start` registers its transaction and is suspended inside its first `Connection.Write` -/
  | startSusp {fg k k' id raw h} (hk : id ∉ ckeys k.c) (f : Frame (k.c.insert (started k.c id raw h)) k'.c)
      (hs : k'.susp = k.susp ++ [{ kind := .start, h := h, id := id, tx := started k.c id raw h }]) :
      Reach M D fg k [(h, id, raw)] [.write raw (some h)] k'
  /-- the remaining events of the same `Collect` are parked behind the call suspended last -/
  | setRest {fg k k' init s} (r : List (TID × CEv)) (hr : Allowed M r) (hk : k.susp = init ++ [s]) (f : Frame k.c k'.c)
      (hs : k'.susp = init ++ [{ s with rest := r }]) : Reach M D fg k [] [] k'
  /-- the oldest suspended call returns without touching its transaction -/
  | pop {fg k k' s rest} (hk : k.susp = s :: rest) (f : Frame k.c k'.c) (hs : k'.susp = rest) : Reach M D fg k [] [] k'
  /-- the oldest suspended call was waiting in `ClientAgent.Start`; that returns and the call enters `Write` -/
  | agentStarted {fg k k' s rest} (hk : k.susp = s :: rest) (hkind : s.kind = .agentStart) (f : Frame k.c k'.c)
      (hs : k'.susp = { s with kind := .retransmit } :: rest) : Reach M D fg k [] [.write s.tx.raw (some s.h)] k'
  /-- the oldest suspended call finishes its transaction, which is still the one registered under its id -/
  | finish {fg k k' s rest} (e : CEv) (he : e.isMsg = false) (hk : k.susp = s :: rest)
      (hcur : k.c.lookup s.id = some s.tx) (f : Frame (k.c.erase s.id) k'.c) (hs : k'.susp = rest) :
      Reach M D fg k [] [.call s.h s.id e] k'
  /-- an entry is deleted by id without a handler invocation (`Start`'s error path) -/
  | forget {k k'} (id : TID) (f : Frame (k.c.erase id) k'.c) (hs : k'.susp = k.susp) : Reach M D true k [] [] k'

theorem forall_mem_concat {α} {p : α → Prop} {l : List α} {a : α} : (∀ x ∈ l ++ [a], p x) ↔ (∀ x ∈ l, p x) ∧ p a :=
  List.forall_mem_append.trans (and_congr_right' List.forall_mem_singleton)

variable {M D : TID → Bytes → Prop} {fg : Bool}

namespace Reach

theorem quiet {k k1 k2 st o} (h1 : Reach M D fg k st o k1) (h2 : Reach M D fg k1 [] [] k2) :
    Reach M D fg k st o k2 := by
  simpa using h1.trans h2

theorem frame {k k' : Client2} (f : Frame k.c k'.c) (hs : k'.susp = k.susp) : Reach M D fg k [] [] k' :=
  .lift (fun _ => .frame f) hs (by simp)

theorem refl (k : Client2) : Reach M D fg k [] [] k := .frame (Frame.refl _) rfl

end Reach

theorem lift_c (k : Client2) (r : Client × List COut) : (k.lift r).1.c = r.1 := rfl
theorem lift_susp (k : Client2) (r : Client × List COut) : (k.lift r).1.susp = k.susp := rfl

theorem retransmitBegin_cases (c : Client) (tx : Txn) (id : TID) :
    (∃ c1 o1, retransmitBegin c tx id = (c1, o1, none)) ∨
    ∃ a, retransmitBegin c tx id =
      ({ c.insert (next tx) with agent := a }, [.write tx.raw (some tx.h)], some { h := tx.h, id := id, tx := next tx }) := by
  unfold Client.retransmitBegin
  simp only
  split
  · exact .inl ⟨_, _, rfl⟩
  · exact .inr ⟨_, rfl⟩

theorem callback2_reach (k : Client2) (id : TID) (e : CEv) (he : ∀ raw, e = .msg raw → D id raw) :
    Reach M D fg k [] (k.callback id e).2.1 (k.callback id e).1 := by
  have hcb : Reach M D fg k [] (k.lift (k.c.callback id e)).2 (k.lift (k.c.callback id e)).1 :=
    .lift (fun hi => callback_moves k.c hi id e) rfl fun h id' raw hm =>
      have ⟨h1, h2⟩ := callback_msg k.c id e h id' raw hm
      h2 ▸ he raw h1
  unfold Client2.callback
  simp only
  cases hl : k.c.lookup id with
  | none => exact hcb
  | some tx =>
    simp only
    cases hgo : (k.c.closed || decide (k.c.maxAttempts ≤ tx.attempt) || e.isMsg) with
    | true => simp only [if_true]; exact hcb
    | false =>
      simp only [Bool.false_eq_true, if_false]
      simp only [Bool.or_eq_false_iff, decide_eq_false_iff_not, Nat.not_le] at hgo
      obtain ⟨⟨hc, hleft⟩, he⟩ := hgo
      cases hba : k.blockAgentIds.contains id with
      | true => exact .suspend false _ hl hleft (Frame.refl _) rfl
      | false =>
        cases hbw : k.blockIds.contains id with
        | false => exact hcb
        | true =>
          simp only [if_true]
          rcases retransmitBegin_cases (k.c.erase id) tx id with ⟨c1, o1, hb⟩ | ⟨a, hb⟩
          · -- the agent refused and nothing is suspended: the first half is the whole L1 callback
            have hL1 : k.c.callback id e = (c1, o1) := by
              rw [callback_retransmit k.c id e tx hl hc hleft he, retransmit_split, hb]
            rw [hb]
            rw [hL1] at hcb
            exact hcb
          · rw [hb]
            exact .suspend true 0 hl hleft (frame_agent _ a) rfl

theorem callbacks2_reach (hMD : ∀ id raw, M id raw → D id raw) (evs : List (TID × CEv)) (hev : Allowed M evs)
    (k : Client2) :
    Reach M D fg k [] (k.callbacks evs).2 (k.callbacks evs).1 := by
  induction evs generalizing k with
  | nil => exact .refl k
  | cons ev r ih =>
    obtain ⟨id, e⟩ := ev
    obtain ⟨he, hr⟩ := List.forall_mem_cons.mp hev
    have h1 := callback2_reach (M := M) (fg := fg) k id e fun raw h => hMD _ _ (he raw h)
    unfold Client2.callbacks
    generalize k.callback id e = x at h1
    obtain ⟨k1, o1, b⟩ := x
    cases b with
    | true =>
      -- the model writes "the call suspended last" as `dropLast ++ getLast?`, which also covers an empty list
      refine h1.quiet ?_
      rcases List.eq_nil_or_concat k1.susp with h | ⟨init, s, h⟩
      · exact .frame (Frame.refl _) (by simp [h])
      · rw [List.concat_eq_append] at h
        exact .setRest r hr h (Frame.refl _) (by simp [h])
    | false => exact h1.trans (ih hr k1)

theorem tick2_reach (hMD : ∀ id raw, M id raw → D id raw) (k : Client2) (t : Nat) :
    Reach M D fg k [] (k.tick t).2 (k.tick t).1 := by
  unfold Client2.tick
  simp only
  refine Reach.trans (s1 := []) (o1 := []) ?_ (callbacks2_reach hMD _ ?_ _)
  · exact .frame ⟨rfl, rfl, rfl, rfl, rfl⟩ rfl
  · intro ev hev raw h
    obtain ⟨a, _, rfl⟩ := List.mem_map.mp hev
    cases h

/-- `k0` is `k` once the call has left the list (`release` lifts the result into `{ k with susp := rest }`) -/
theorem retransmitPost_reach (k k0 : Client2) (s : Susp) (rest : List Susp) (inject : Bool) (hk : k.susp = s :: rest)
    (hkind : s.kind = .agentStart) (h0 : k0.susp = rest) :
    Reach M D fg k [] (retransmitPost k.c s inject).2 (k0.lift (retransmitPost k.c s inject)).1 := by
  unfold Client.retransmitPost
  simp only
  split
  · cases hst : (k.c.lookup s.id != some s.tx) with
    | true => exact .pop hk (Frame.refl _) h0
    | false => exact .finish _ (by split <;> rfl) hk (bne_eq_false_iff_eq.mp hst) (Frame.refl _) h0
  · have f := frame_agent_write k.c (k.c.agent.start s.id s.deadline).1 s.tx.raw
    generalize ({ k.c with agent := (k.c.agent.start s.id s.deadline).1 } : Client).connWrite s.tx.raw = w at f ⊢
    have hw : Reach M D fg k [] [.write s.tx.raw (some s.h)]
        { k with c := w.1, susp := { s with kind := .retransmit } :: rest } :=
      .agentStarted hk hkind f rfl
    cases w.2 with
    | true => exact hw.quiet (.pop rfl (Frame.refl _) h0)
    | false =>
      cases hst : (w.1.lookup s.id != some s.tx) with
      | true => exact hw.quiet (.pop rfl (Frame.refl _) h0)
      | false =>
        exact hw.trans (.finish (s := { s with kind := .retransmit }) _ (by split <;> rfl) rfl
          (bne_eq_false_iff_eq.mp hst) (frame_agent _ _) h0)

/-- `k0` as in `retransmitPost_reach`. A write that failed finishes the transaction, which `release` has found to be
    still the one registered (`hcur`) -/
theorem retransmitEnd_reach (k k0 : Client2) (s : Susp) (rest : List Susp) (ok : Bool) (hk : k.susp = s :: rest)
    (hcur : ok = false → k.c.lookup s.id = some s.tx) (h0 : k0.susp = rest) :
    Reach M D fg k [] (retransmitEnd k.c s ok).2 (k0.lift (retransmitEnd k.c s ok)).1 := by
  unfold Client.retransmitEnd
  cases ok with
  | true => exact .pop hk (Frame.refl _) h0
  | false => exact .finish _ (by split <;> rfl) hk (hcur rfl) (frame_agent _ _) h0

theorem release_reach (hMD : ∀ id raw, M id raw → D id raw) (k : Client2) (hp : ParkedOK M k) (ok : Bool) :
    Reach M D fg k [] (k.release ok).2 (k.release ok).1 := by
  unfold Client2.release
  cases hk : k.susp with
  | nil => exact .refl k
  | cons s rest =>
    have hcb := callbacks2_reach (fg := fg) hMD s.rest (hp s (by rw [hk]; exact List.mem_cons_self))
    simp only
    cases hkd : s.kind == .agentStart with
    | true => exact (retransmitPost_reach k _ s rest _ hk (by simpa using hkd) rfl).trans (hcb _)
    | false =>
      simp only [Bool.false_eq_true, if_false]
      cases hst : (!ok && k.c.lookup s.id != some s.tx) with
      | true =>
        have hpop : Reach M D fg k [] [] { k with susp := rest } := .pop hk (Frame.refl _) rfl
        rw [if_pos rfl]; exact hpop.trans (hcb _)
      | false =>
        rw [if_neg Bool.false_ne_true]
        refine (retransmitEnd_reach k _ s rest ok hk (fun hok => ?_) rfl).trans (hcb _)
        rw [hok] at hst
        exact bne_eq_false_iff_eq.mp hst

theorem startBegin_cases (c : Client) (id : TID) (raw : Bytes) (h : Nat) :
    (∃ c1 e o1, startBegin c id raw h = (c1, e, o1, none)) ∨
    (id ∉ ckeys c ∧ ∃ a, startBegin c id raw h =
      ({ c.insert (started c id raw h) with agent := a }, none, [.write raw (some h)],
        some { kind := .start, h := h, id := id, tx := started c id raw h })) := by
  unfold Client.startBegin
  -- the `let`s become variables, as in `start_outcome`
  extract_lets tx d c1
  by_cases hc : c.closed = true
  · rw [if_pos hc]; exact .inl ⟨_, _, _, rfl⟩
  · by_cases hl : (c.lookup id).isSome = true
    · rw [if_neg hc, if_pos hl]; exact .inl ⟨_, _, _, rfl⟩
    · rw [if_neg hc, if_neg hl]
      have hk : id ∉ ckeys c := mt (lookup_iff c id).mpr hl
      generalize c1.agent.start id d = r
      obtain ⟨a, _ | e⟩ := r
      · exact .inr ⟨hk, a, rfl⟩
      · exact .inl ⟨_, _, _, rfl⟩

theorem startBlocked_reach (k : Client2) (id : TID) (raw : Bytes) (h : Nat) :
    Reach M D fg k [(h, id, raw)] (k.startBlocked id raw h).2.2 (k.startBlocked id raw h).1 := by
  unfold Client2.startBlocked
  rcases startBegin_cases k.c id raw h with ⟨c1, e, o1, hb⟩ | ⟨hk, a, hb⟩
  · -- no write was entered: this is the whole L1 `Start`
    have hsplit := start_split k.c id raw h
    have hm := start_moves (cl := true) k.c id raw h
    have ho := start_outs k.c id raw (some h)
    rw [hb] at hsplit ⊢
    rw [hsplit] at hm ho
    exact .lift (fun _ => hm) rfl (fun _ _ _ hx => nomatch ho _ hx)
  · rw [hb]
    exact .startSusp hk (frame_agent _ a) rfl

theorem releaseStart_reach (k : Client2) (ok : Bool) : Reach M D true k [] [] (k.releaseStart ok).1 := by
  unfold Client2.releaseStart
  cases hk : k.susp with
  | nil => exact .refl k
  | cons s rest =>
    have hp : Reach M D true k [] [] { k with susp := rest } := .pop hk (Frame.refl _) rfl
    cases ok with
    | true => exact hp
    | false => exact hp.quiet (.forget s.id (frame_agent _ _) rfl)

theorem step_not_tick (k : Client2) (op : COp) (hnt : ∀ t, op ≠ .tick t) :
    k.step (.l1 op) = ({ k with c := (k.c.step op).1 }, (k.c.step op).2.1, (k.c.step op).2.2) := by
  -- the second equation of `Client2.step`; its pattern `.l1 op` overlaps the first, `.l1 (.tick t)`, so Lean states
  -- it under the side condition that `op` is no tick
  rw [Client2.step]; exact hnt

theorem step2_reach (hMD : ∀ id raw, M id raw → D id raw) (k : Client2) (hp : ParkedOK M k) (op : COp2)
    (hD : ∀ id raw, MsgSrc op id raw → D id raw) :
    Reach M D true k (starts2Of [op]) (k.step op).2.2 (k.step op).1 := by
  cases op with
  | l1 op1 =>
    by_cases ht : ∃ t, op1 = .tick t
    · obtain ⟨t, rfl⟩ := ht
      exact tick2_reach hMD k t
    · rw [step_not_tick k op1 (fun t h => ht ⟨t, h⟩), starts2Of_l1]
      refine .lift (fun hi => step_moves k.c hi op1 fun _ => rfl) rfl fun h id raw hm => ?_
      obtain ⟨d, hop, hok, hid, hraw⟩ := step_msg k.c op1 h id raw hm
      exact hD id raw (.inr ⟨d, by rw [hop], hraw, hid, hok⟩)
  | blockWrite id => exact .frame (Frame.refl _) rfl
  | blockAgent id => exact .frame (Frame.refl _) rfl
  | release ok =>
    simp only [Client2.step]
    split
    · exact releaseStart_reach k ok
    · exact release_reach hMD k hp ok
  | startBlocked id raw h => exact startBlocked_reach k id raw h
  | deliverDecoded tid raw =>
    refine .lift (fun hi => deliverDecoded_moves k.c hi tid raw) rfl fun h id raw' hm => ?_
    obtain ⟨rfl, rfl⟩ := deliverDecoded_msg k.c tid raw h id raw' hm
    exact hD _ _ (.inl rfl)

theorem Reach.parkedOK {k k' : Client2} {st o} (hr : Reach M D fg k st o k') (hp : ParkedOK M k) : ParkedOK M k' := by
  unfold ParkedOK at hp ⊢
  induction hr with
  | trans _ _ ih1 ih2 => exact ih2 (ih1 hp)
  | lift _ hs _ | forget _ _ hs => exact hs ▸ hp
  | suspend _ _ _ _ _ hs | startSusp _ _ hs =>
    exact hs ▸ forall_mem_concat.mpr ⟨hp, Allowed.nil⟩
  | setRest r hr hk _ hs => exact hs ▸ forall_mem_concat.mpr ⟨(forall_mem_concat.mp (hk ▸ hp)).1, hr⟩
  | pop hk _ hs | finish _ _ hk _ _ hs => exact hs ▸ (List.forall_mem_cons.mp (hk ▸ hp)).2
  | agentStarted hk _ _ hs => exact hs ▸ List.forall_mem_cons.mpr (List.forall_mem_cons.mp (hk ▸ hp))

theorem run2_reach (hMD : ∀ id raw, M id raw → D id raw) (ops : List COp2) (k : Client2) (hp : ParkedOK M k)
    (hD : ∀ op ∈ ops, ∀ id raw, MsgSrc op id raw → D id raw) :
    Reach M D true k (starts2Of ops) (k.run ops).2 (k.run ops).1 := by
  induction ops generalizing k with
  | nil => exact .refl k
  | cons op r ih =>
    rw [starts2Of_cons]
    have h1 := step2_reach hMD k hp op (hD op List.mem_cons_self)
    exact h1.trans (ih _ (Reach.parkedOK h1 hp) (fun op' h => hD op' (List.mem_cons_of_mem _ h)))

theorem run2_reach_any (ops : List COp2) (k : Client2) :
    Reach (fun _ _ => True) (fun _ _ => True) true k (starts2Of ops) (k.run ops).2 (k.run ops).1 :=
  run2_reach (fun _ _ _ => trivial) ops k (fun _ _ _ _ _ _ => trivial) (fun _ _ _ _ _ => trivial)

end Stun.ClientProofs
