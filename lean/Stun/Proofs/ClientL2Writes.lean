/-
  L2 write budget (C11): `pot` = attempts left over the registered transactions of handler `h` (`budget`) + one unit
  for every call of `h` suspended at `ClientAgent.Start` (it has advanced the attempt counter and has not written yet).
  Every write for `h` is paid by one unit of `pot` or by the `M + 1` units of a `Start` with that handler
  (`run2_budget`).
-/
import Stun.Proofs.ClientL2Acct
import Stun.Proofs.ClientWrites
namespace Stun.ClientProofs
open Stun Stun.Client

def owedWrites (h : Nat) (l : List Susp) : Nat := l.countP fun s => s.kind == .agentStart && s.h == h

def pot (M h : Nat) (k : Client2) : Nat := budget M h k.c + owedWrites h k.susp

theorem owedWrites_append (h : Nat) (a b : List Susp) : owedWrites h (a ++ b) = owedWrites h a + owedWrites h b :=
  List.countP_append

theorem owedWrites_cons_le (h : Nat) (s : Susp) (l : List Susp) : owedWrites h l ≤ owedWrites h (s :: l) := by
  unfold owedWrites; rw [List.countP_cons]; omega

theorem owedWrites_cons_agentStart (h : Nat) {s : Susp} (l : List Susp) (hk : s.kind = .agentStart) :
    owedWrites h (s :: l) = (if s.h == h then 1 else 0) + owedWrites h l := by
  unfold owedWrites; rw [List.countP_cons, hk, Nat.add_comm]; rfl

/-- as `acct_of_moves`: the cases of `Reach.budget_le` that are an L1 move and a change of the suspended list -/
theorem budget_of_moves {k k' : Client2} {st o} (m : Moves true k.c st o k'.c) (M h : Nat) (hi : TInv k.c)
    (hM : k.c.maxAttempts = M) (ho : owedWrites h k'.susp ≤ owedWrites h k.susp) :
    wr h o + pot M h k' ≤ pot M h k + (M + 1) * cntS h st ∧ k'.c.maxAttempts = M := by
  have := m.budget_le M h hi hM
  exact ⟨by unfold pot; omega, m.maxAttempts.trans hM⟩

theorem Reach.budget_le {P D fg} {k k' : Client2} {st o} (hr : Reach P D fg k st o k') (M h : Nat)
    (S : List (Nat × TID × Bytes))
    (hst : ∀ x ∈ st, x ∈ S) (hk : Inv2 S k) (hM : k.c.maxAttempts = M) :
    wr h o + pot M h k' ≤ pot M h k + (M + 1) * cntS h st ∧ k'.c.maxAttempts = M := by
  induction hr with
  | trans h1 _ ih1 ih2 =>
    obtain ⟨hst1, hst2⟩ := List.forall_mem_append.mp hst
    obtain ⟨b1, m1⟩ := ih1 hst1 hk hM
    -- `Reach.acct` is also the lemma that `Reach` keeps `Inv2`: a separate one would repeat its case analysis
    obtain ⟨b2, m2⟩ := ih2 hst2 (h1.acct S hst1 hk).1 m1
    refine ⟨?_, m2⟩
    rw [wr_append, cntS_append, Nat.mul_add]; omega
  | lift hm hs _ => exact budget_of_moves (hm hk.inv) M h hk.inv hM (by rw [hs]; exact Nat.le_refl _)
  | @suspend _ k k' id tx w d hl hleft f hs =>
    cases w with
    | true =>
      refine budget_of_moves ((Moves.retry true hl hleft).then_frame f) M h hk.inv hM ?_
      rw [hs, owedWrites_append]; exact Nat.le_refl _
    | false =>
      -- the attempt is advanced and nothing is written yet: the unit goes from the table to the suspended call
      have hb := budget_retry M h hk.inv hl (hM ▸ hleft)
      rw [← show budget M h k'.c = budget M h ((k.c.erase id).insert (next tx)) from tabW_congr _ f.t] at hb
      have ho : owedWrites h k'.susp = owedWrites h k.susp + if tx.h == h then 1 else 0 := by
        rw [hs, owedWrites_append, owedWrites_cons_agentStart h [] rfl]; rfl
      refine ⟨?_, f.maxAttempts.trans hM⟩
      -- `show` unfolds `pot` and evaluates `wr h [] = 0`, `cntS h [] = 0`
      show 0 + (budget M h k'.c + owedWrites h k'.susp) ≤ budget M h k.c + owedWrites h k.susp + (M + 1) * 0
      omega
  | startSusp hk' f hs =>
    refine budget_of_moves ((Moves.register _ _ _ hk').then_frame f) M h hk.inv hM ?_
    rw [hs, owedWrites_append]; exact Nat.le_refl _
  | setRest r _ hk' f hs =>
    refine budget_of_moves (.frame f) M h hk.inv hM ?_
    rw [hs, hk', owedWrites_append, owedWrites_append]; exact Nat.le_refl _
  | pop hk' f hs => exact budget_of_moves (.frame f) M h hk.inv hM (by rw [hs, hk']; exact owedWrites_cons_le h _ _)
  | @agentStarted _ k k' s rest hk' hkd f hs =>
    -- the late write is paid by the unit the call was carrying
    have hb : budget M h k'.c = budget M h k.c := tabW_congr _ f.t
    have ho : owedWrites h k'.susp + (if s.h == h then 1 else 0) = owedWrites h k.susp := by
      rw [hs, hk', owedWrites_cons_agentStart h rest hkd, Nat.add_comm]; rfl
    refine ⟨?_, f.maxAttempts.trans hM⟩
    unfold pot
    rw [wr_write, cntS_nil]; omega
  | finish e _ hk' hcur f hs =>
    exact budget_of_moves (hk.finish hk' e hcur f) M h hk.inv hM (by rw [hs, hk']; exact owedWrites_cons_le h _ _)
  | @forget k k' id f hs =>
    refine ⟨?_, f.maxAttempts.trans hM⟩
    unfold pot budget
    rw [tabW_congr _ f.t, hs, show wr h [] = 0 from rfl, Nat.zero_add]
    exact Nat.le_add_right_of_le (Nat.add_le_add_right (tabW_erase_le _ k.c id) _)

theorem run2_budget (M h : Nat) (ops : List COp2) : ∀ (S) (k : Client2), Inv2 S k → k.c.maxAttempts = M →
    wr h (k.run ops).2 + pot M h (k.run ops).1 ≤ pot M h k + (M + 1) * startCount2 h ops :=
  fun S k hk hM => ((run2_reach_any ops k).budget_le M h (starts2Of ops ++ S) (fun _ hx => List.mem_append_left _ hx)
    (inv2_mono S _ k hk (fun _ hx => List.mem_append_right _ hx)) hM).1

end Stun.ClientProofs
