/-
  Go's mask-and-shift arithmetic as div/mod arithmetic, and with it the two functions of message.go:
  `Value()` and `ReadValue()` are the RFC's figure 3 for every argument. What figure 3 does to the fields is read off
  numbers written by their digits in Horner form, where taking a digit is a rewrite (`low_mod`, `low_div`).
-/
import Stun.Model.MsgType
namespace Stun.Bits

theorem and_shift_mask (x lo w : Nat) :
    x &&& ((2 ^ w - 1) <<< lo) = ((x >>> lo) % 2 ^ w) <<< lo := by
  apply Nat.eq_of_testBit_eq; intro i
  simp only [Nat.testBit_and, Nat.testBit_shiftLeft, Nat.testBit_mod_two_pow, Nat.testBit_shiftRight,
    Nat.testBit_two_pow_sub_one]
  -- bit by bit: below `lo` both sides are 0; bit `i ≥ lo` is bit `i` of `x` if `i - lo < w` and 0 otherwise
  by_cases h : lo ≤ i
  · by_cases h2 : i - lo < w
    · simp [h, h2]
    · simp [h, h2]
  · simp [h]

theorem and_0x70 (x : Nat) : x &&& 0x70 = ((x / 16) % 8) * 16 := by
  simpa [Nat.shiftLeft_eq, Nat.shiftRight_eq_div_pow] using and_shift_mask x 4 3
theorem and_0xf80 (x : Nat) : x &&& 0xf80 = ((x / 128) % 32) * 128 := by
  simpa [Nat.shiftLeft_eq, Nat.shiftRight_eq_div_pow] using and_shift_mask x 7 5
theorem and_0xf (x : Nat) : x &&& 0xf = x % 16 := by
  simpa [Nat.shiftLeft_eq, Nat.shiftRight_eq_div_pow] using and_shift_mask x 0 4
theorem and_0x1 (x : Nat) : x &&& 0x1 = x % 2 := Nat.and_one_is_mod x
theorem and_0x2 (x : Nat) : x &&& 0x2 = ((x / 2) % 2) * 2 := by
  simpa [Nat.shiftLeft_eq, Nat.shiftRight_eq_div_pow] using and_shift_mask x 1 1

theorem w16_and (x : Nat) {k : Nat} (hk : k < 65536) : w16 x &&& k = x &&& k := by
  have e : w16 x = x &&& (2 ^ 16 - 1) := (Nat.and_two_pow_sub_one_eq_mod x 16).symm
  rw [e, Nat.and_assoc, Nat.and_comm _ k, Nat.and_two_pow_sub_one_eq_mod, Nat.mod_eq_of_lt hk]

theorem w16_of_lt {x : Nat} (h : x < 65536) : w16 x = x := Nat.mod_eq_of_lt h

theorem low_mod {x r : Nat} (h : x < r) (y : Nat) : (x + r * y) % r = x := by
  rw [Nat.add_mul_mod_self_left, Nat.mod_eq_of_lt h]

theorem low_div {x r : Nat} (h : x < r) (y : Nat) : (x + r * y) / r = y := by
  rw [Nat.add_mul_div_left _ _ (Nat.zero_lt_of_lt h), Nat.div_eq_of_lt h, Nat.zero_add]

/-! The same under a modulus or divisor `n` that is a multiple of `r`; as `simp` lemmas they take a numeral `n`. -/

theorem low_mod_mul {x r n : Nat} (h : x < r) (hn : n % r = 0) (y : Nat) : (x + r * y) % n = x + r * (y % (n / r)) := by
  obtain ⟨s, rfl⟩ := Nat.dvd_of_mod_eq_zero hn
  rw [Nat.mod_mul, low_mod h, low_div h, Nat.mul_div_cancel_left s (Nat.zero_lt_of_lt h)]

theorem low_div_mul {x r n : Nat} (h : x < r) (hn : n % r = 0) (y : Nat) : (x + r * y) / n = y / (n / r) := by
  obtain ⟨s, rfl⟩ := Nat.dvd_of_mod_eq_zero hn
  rw [← Nat.div_div_eq_div_mul, low_div h, Nat.mul_div_cancel_left s (Nat.zero_lt_of_lt h)]

/-- a truncated summand in the middle of a truncated sum -/
theorem add_mod_add (a b c n : Nat) : (a + b % n + c) % n = (a + b + c) % n := by
  rw [Nat.add_right_comm, Nat.add_mod_mod, Nat.add_right_comm]

end Stun.Bits

namespace Stun.C19
open Stun.Bits Stun.Spec

theorem fig3_lt (m c : Nat) : fig3 m c < 16384 := by
  unfold fig3; omega

/-- `Value()` is figure 3, for all arguments: bits above a mask do not matter, and no sum overflows 16 bits -/
theorem typeValue_arith (m c : Nat) : typeValue m c = fig3 m c := by
  unfold typeValue
  simp (disch := decide) only [w16_and]
  simp only [and_0xf, and_0x70, and_0xf80, and_0x1, and_0x2, Nat.shiftLeft_eq, Nat.reducePow]
  -- the inner truncations vanish under the outermost one
  simp only [w16, Nat.mod_add_mod, Nat.add_mod_mod, add_mod_add]
  -- figure 3 is below 2^16 and may be truncated as well; then both sides are the same sum in another order
  rw [← Nat.mod_eq_of_lt (Nat.lt_trans (fig3_lt m c) (by decide : 16384 < 65536)), fig3]
  simp +arith only

/-- `ReadValue` extracts exactly the figure-3 method and class bits of any wire value -/
theorem readValue_eq_rfc (v : Nat) : readValue v = (fig3Method v, fig3Class v) := by
  unfold readValue fig3Method fig3Class
  simp only [and_0xf, and_0x70, and_0xf80, and_0x1, and_0x2, Nat.shiftRight_eq_div_pow,
    Nat.div_div_eq_div_mul, Nat.reducePow, Nat.reduceMul]
  generalize v / 32 = v1, v / 512 = v2, v / 16 = v3, v / 256 = v4
  -- sums of digits: neither truncation (to uint16, to the class byte) cuts anything; what is left differs from
  -- figure 3 only in the order of the factors
  rw [w16_of_lt (by omega), w16_of_lt (by omega), Nat.mod_eq_of_lt (show v3 % 2 + v4 % 2 * 2 < 256 by omega)]
  simp only [Nat.mul_comm]

theorem readValue_arith (v : Nat) :
    readValue v = (v % 16 + 16 * (v / 32 % 8) + 128 * (v / 512 % 32), v / 16 % 2 + 2 * (v / 256 % 2)) :=
  readValue_eq_rfc v

theorem method_digits (m : Nat) : ∃ a b d, a < 16 ∧ b < 8 ∧ m = a + 16 * (b + 8 * d) :=
  ⟨m % 16, m / 16 % 8, m / 16 / 8, Nat.mod_lt _ (by decide), Nat.mod_lt _ (by decide),
    by rw [Nat.mod_add_div, Nat.mod_add_div]⟩

theorem class_digits (c : Nat) : ∃ c0 e, c0 < 2 ∧ c = c0 + 2 * e :=
  ⟨c % 2, c / 2, Nat.mod_lt _ (by decide), (Nat.mod_add_div c 2).symm⟩

theorem value_digits (v : Nat) : ∃ a c0 b c1 d, a < 16 ∧ c0 < 2 ∧ b < 8 ∧ c1 < 2 ∧
    v = a + 16 * (c0 + 2 * (b + 8 * (c1 + 2 * d))) :=
  ⟨v % 16, v / 16 % 2, v / 16 / 2 % 8, v / 16 / 2 / 8 % 2, v / 16 / 2 / 8 / 2,
    Nat.mod_lt _ (by decide), Nat.mod_lt _ (by decide), Nat.mod_lt _ (by decide), Nat.mod_lt _ (by decide),
    by rw [Nat.mod_add_div, Nat.mod_add_div, Nat.mod_add_div, Nat.mod_add_div]⟩

section
variable {a c0 b c1 : Nat} (ha : a < 16) (h0 : c0 < 2) (hb : b < 8) (h1 : c1 < 2)
include ha h0 hb

/-- figure 3 interleaves the digits of method and class; `d` and `e` are whatever lies above M6 and C0 -/
theorem fig3_digits (d e : Nat) :
    fig3 (a + 16 * (b + 8 * d)) (c0 + 2 * e) = a + 16 * (c0 + 2 * (b + 8 * (e % 2 + 2 * (d % 32)))) := by
  simp only [fig3, low_mod, low_div, low_div_mul, ha, h0, hb]
  simp +arith only

include h1

theorem fig3Method_digits (d : Nat) :
    fig3Method (a + 16 * (c0 + 2 * (b + 8 * (c1 + 2 * d)))) = a + 16 * (b + 8 * (d % 32)) := by
  simp only [fig3Method, low_mod, low_div, low_div_mul, ha, h0, hb, h1]
  simp +arith only

theorem fig3Class_digits (d : Nat) :
    fig3Class (a + 16 * (c0 + 2 * (b + 8 * (c1 + 2 * d)))) = c0 + 2 * c1 := by
  simp only [fig3Class, low_mod, low_div, low_div_mul, ha, h0, hb, h1]

end

theorem fig3Method_fig3 (m c : Nat) : fig3Method (fig3 m c) = m % 4096 := by
  obtain ⟨a, b, d, ha, hb, rfl⟩ := method_digits m
  obtain ⟨c0, e, h0, rfl⟩ := class_digits c
  rw [fig3_digits ha h0 hb, fig3Method_digits ha h0 hb (Nat.mod_lt _ (by decide))]
  simp only [Nat.mod_mod, low_mod_mul, ha, hb]

theorem fig3Class_fig3 (m c : Nat) : fig3Class (fig3 m c) = c % 4 := by
  obtain ⟨a, b, d, ha, hb, rfl⟩ := method_digits m
  obtain ⟨c0, e, h0, rfl⟩ := class_digits c
  rw [fig3_digits ha h0 hb, fig3Class_digits ha h0 hb (Nat.mod_lt _ (by decide))]
  simp only [low_mod_mul, h0]

theorem fig3_fields (v : Nat) : fig3 (fig3Method v) (fig3Class v) = v % 16384 := by
  obtain ⟨a, c0, b, c1, d, ha, h0, hb, h1, rfl⟩ := value_digits v
  rw [fig3Method_digits ha h0 hb h1, fig3Class_digits ha h0 hb h1, fig3_digits ha h0 hb,
    Nat.mod_eq_of_lt h1, Nat.mod_mod]
  simp only [low_mod_mul, ha, h0, hb, h1]

theorem readValue_typeValue (m c : Nat) : readValue (typeValue m c) = (m % 4096, c % 4) := by
  rw [readValue_eq_rfc, typeValue_arith, fig3Method_fig3, fig3Class_fig3]

/-- reading any wire value and re-encoding yields its low 14 bits -/
theorem value_read (v : Nat) : typeValue (readValue v).1 (readValue v).2 = v % 16384 := by
  rw [readValue_eq_rfc, typeValue_arith, fig3_fields]

theorem typeValue_lt (m c : Nat) : typeValue m c < 16384 :=
  typeValue_arith m c ▸ fig3_lt m c

end Stun.C19
