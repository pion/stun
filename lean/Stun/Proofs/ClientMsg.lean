/-
  Where the messages come from that handlers are given (C12): only the delivery of a datagram hands a handler a
  message, and it is that datagram.
-/
import Stun.Proofs.ClientCallback
namespace Stun.ClientProofs
open Stun Stun.Client

theorem callback_msg (c : Client) (id : TID) (e : CEv) (h : Nat) (id' : TID) (raw : Bytes)
    (hm : COut.call h id' (.msg raw) ∈ (c.callback id e).2) : e = .msg raw ∧ id' = id := by
  have o := callback_outcome c id e
  generalize c.callback id e = r at o hm
  cases o with
  | ignored | fallback => simp at hm
  | completed => simp only [List.mem_singleton, COut.call.injEq] at hm; exact ⟨hm.2.2.symm, hm.2.1⟩
  | retransmitted _ _ _ _ _ o => cases o with
    | written => simp at hm
    | failed w e' he' =>
      -- the error path reports an error
      rcases List.mem_append.mp hm with hm | hm
      · nomatch mem_wrote hm
      · cases List.mem_singleton.mp hm; cases he'

theorem callbacks_msg (evs : List (TID × CEv)) (c : Client) (h : Nat) (id : TID) (raw : Bytes)
    (hm : COut.call h id (.msg raw) ∈ (c.callbacks evs).2) : (id, CEv.msg raw) ∈ evs := by
  induction evs generalizing c with
  | nil => cases hm
  | cons ev r ih =>
    obtain ⟨id', e⟩ := ev
    rw [callbacks_cons, List.mem_append] at hm
    rcases hm with hm | hm
    · obtain ⟨rfl, rfl⟩ := callback_msg c id' e h id raw hm; exact List.mem_cons_self
    · exact List.mem_cons_of_mem _ (ih _ hm)

theorem deliverDecoded_msg (c : Client) (tid : TID) (raw : Bytes) (h : Nat) (id : TID) (raw' : Bytes)
    (hm : COut.call h id (.msg raw') ∈ (c.deliverDecoded tid raw).2) : raw' = raw ∧ id = tid := by
  rcases deliverDecoded_cases c tid raw with e | ⟨_, e⟩ <;> rw [e] at hm
  · cases hm
  · obtain ⟨he, hid⟩ := callback_msg _ _ _ _ _ _ hm
    exact ⟨(CEv.msg.inj he).symm, hid⟩

theorem deliver_msg (c : Client) (d : Bytes) (h : Nat) (id : TID) (raw : Bytes)
    (hm : COut.call h id (.msg raw) ∈ (c.deliver d).2) :
    (readerMsg.readFrom d).2 = .ok () ∧ id = (readerMsg.readFrom d).1.tid ∧ raw = d.take 1024 := by
  rcases deliver_cases c d with e | ⟨hok, e⟩ <;> rw [e] at hm
  · cases hm
  · obtain ⟨hraw, hid⟩ := deliverDecoded_msg _ _ _ _ _ _ hm
    exact ⟨hok, hid, by rw [← readFrom_raw]; exact hraw⟩

theorem step_msg (c : Client) (op : COp) (h : Nat) (id : TID) (raw : Bytes)
    (hm : COut.call h id (.msg raw) ∈ (c.step op).2.2) :
    ∃ d, op = .deliver d ∧ (readerMsg.readFrom d).2 = .ok () ∧ id = (readerMsg.readFrom d).1.tid ∧ raw = d.take 1024 := by
  cases op with
  | start id' raw' hd => cases start_outs c id' raw' hd _ hm
  | deliver d =>
    rw [step_deliver_outs rfl] at hm
    exact ⟨d, rfl, deliver_msg c d h id raw hm⟩
  | tick t =>
    have := callbacks_msg _ _ _ _ _ hm
    simp at this
  | clock | failWrite | setRTO => simp [Client.step] at hm
  | close =>
    simp only [Client.step] at hm
    -- `Close` invokes handlers only with ErrAgentClosed
    cases hc : c.closed with
    | true => rw [close_closed c hc] at hm; cases hm
    | false => rcases close_outs c hc _ hm with ⟨_, _, e⟩ | ⟨e, _⟩ <;> cases e

end Stun.ClientProofs
