/-
  L2, messages (C12): the only message a handler can be given is the datagram processed by that very step, under the
  datagram's transaction id - whatever is suspended and whatever waits behind suspended calls (`RestOK`: no message
  waits there). `run2_msg` lifts it to every L2 history.
-/
import Stun.Proofs.ClientL2Reach
namespace Stun.ClientProofs
open Stun Stun.Client

theorem Reach.msg {M D fg} {k k' : Client2} {st o} (hr : Reach M D fg k st o k') :
    ∀ h id raw, COut.call h id (.msg raw) ∈ o → D id raw := by
  induction hr with
  | trans _ _ ih1 ih2 => exact fun h id raw hm => (List.mem_append.mp hm).elim (ih1 h id raw) (ih2 h id raw)
  | lift _ _ hd => exact hd
  | suspend w => cases w <;> simp
  | finish e he =>
    intro h id raw hm
    simp only [List.mem_singleton, COut.call.injEq] at hm
    rw [← hm.2.2] at he; cases he
  | _ => simp

/-- no message waits behind a suspended call -/
def RestOK (k : Client2) : Prop := ParkedOK (fun _ _ => False) k

theorem step2_msg (k : Client2) (hk : RestOK k) (op : COp2) :
    RestOK (k.step op).1 ∧ ∀ h id raw, COut.call h id (.msg raw) ∈ (k.step op).2.2 → MsgSrc op id raw :=
  have hr := step2_reach (D := MsgSrc op) (fun _ _ => False.elim) k hk op (fun _ _ h => h)
  ⟨hr.parkedOK hk, hr.msg⟩

theorem run2_msg (ops : List COp2) (k : Client2) (hk : RestOK k) :
    ∀ h id raw, COut.call h id (.msg raw) ∈ (k.run ops).2 → ∃ op ∈ ops, MsgSrc op id raw :=
  (run2_reach (fun _ _ => False.elim) ops k hk (fun op hop _ _ hs => ⟨op, hop, hs⟩)).msg

end Stun.ClientProofs
