/-
  The string helpers of the URI model (`cut`, `index`, `lastIndex`), each through two facts: what it returns
  on a string that visibly splits at the separator (`a ++ sep :: b`, the separator absent from the relevant side) and
  on a string without the separator. Every string has one of these two forms (`List.eq_append_cons_of_mem` for the
  first occurrence, `eq_append_cons_of_mem_last` for the last), so what a result says about the argument is read off
  the same two facts. `count` is core's `List.count`; `contains` needs nothing: `List.contains_eq_mem` is a simp lemma.
-/
import Stun.Model.URI
namespace Stun.URI

theorem eq_append_cons_of_mem_last {α} {a : α} {xs : List α} (h : a ∈ xs) : ∃ as bs, xs = as ++ a :: bs ∧ a ∉ bs := by
  obtain ⟨as, bs, e, hn⟩ := List.eq_append_cons_of_mem (List.mem_reverse.mpr h)
  refine ⟨bs.reverse, as.reverse, ?_, by simpa using hn⟩
  simpa using congrArg List.reverse e

variable {sep : UInt8} {s a b : Str}

theorem cut_of_not_mem (h : sep ∉ s) : cut sep s = (s, [], false) := by
  induction s with
  | nil => rfl
  | cons c r ih =>
    rw [List.mem_cons, not_or] at h
    simp [cut, Ne.symm h.1, ih h.2]

theorem cut_append (h : sep ∉ a) : cut sep (a ++ sep :: b) = (a, b, true) := by
  induction a with
  | nil => simp [cut]
  | cons c r ih =>
    rw [List.mem_cons, not_or] at h
    simp [cut, Ne.symm h.1, ih h.2]

theorem cut_spec (sep : UInt8) (s : Str) : sep ∉ (cut sep s).1 ∧ (cut sep s).1 <+: s := by
  by_cases h : sep ∈ s
  · obtain ⟨a, b, rfl, ha⟩ := List.eq_append_cons_of_mem h
    rw [cut_append ha]; exact ⟨ha, List.prefix_append _ _⟩
  · rw [cut_of_not_mem h]; exact ⟨h, List.prefix_refl _⟩

theorem index_of_not_mem (h : sep ∉ s) : index sep s = none :=
  List.findIdx?_eq_none_iff.mpr fun x hx => by simpa using fun e : x = sep => h (e ▸ hx)

theorem index_append (h : sep ∉ a) : index sep (a ++ sep :: b) = some a.length := by
  have := index_of_not_mem h
  unfold index at this
  simp [index, this, List.findIdx?_cons]

theorem index_eq_some {e : Nat} (h : index sep s = some e) : ∃ a b, s = a ++ sep :: b ∧ sep ∉ a ∧ e = a.length := by
  by_cases hm : sep ∈ s
  · obtain ⟨a, b, rfl, ha⟩ := List.eq_append_cons_of_mem hm
    rw [index_append ha] at h; cases h
    exact ⟨a, b, rfl, ha, rfl⟩
  · rw [index_of_not_mem hm] at h; cases h

theorem filter_zipIdx_of_not_mem (h : sep ∉ s) (k : Nat) : (s.zipIdx k).filter (fun p => p.1 == sep) = [] :=
  List.filter_eq_nil_iff.mpr fun _ hp e => h (eq_of_beq e ▸ List.fst_mem_of_mem_zipIdx hp)

theorem lastIndex_of_not_mem (h : sep ∉ s) : lastIndex sep s = none := by
  simp [lastIndex, filter_zipIdx_of_not_mem h]

theorem lastIndex_append (h : sep ∉ b) : lastIndex sep (a ++ sep :: b) = some a.length := by
  simp [lastIndex, List.zipIdx_append, List.zipIdx_cons, filter_zipIdx_of_not_mem h]

theorem lastIndex_eq_some {i : Nat} (h : lastIndex sep s = some i) :
    ∃ a b, s = a ++ sep :: b ∧ sep ∉ b ∧ i = a.length := by
  by_cases hm : sep ∈ s
  · obtain ⟨a, b, rfl, hb⟩ := eq_append_cons_of_mem_last hm
    rw [lastIndex_append hb] at h; cases h
    exact ⟨a, b, rfl, hb, rfl⟩
  · rw [lastIndex_of_not_mem hm] at h; cases h

theorem lastIndex_spec {i : Nat} (h : lastIndex sep s = some i) : s[i]? = some sep := by
  obtain ⟨a, b, rfl, _, rfl⟩ := lastIndex_eq_some h
  simp

theorem count_eq (sep : UInt8) (s : Str) : count sep s = s.count sep := List.countP_eq_length_filter.symm

theorem cut_last (hl : s.getLast? = some sep) (hc : count sep s = 1) : cut sep s = (s.dropLast, [], true) := by
  obtain ⟨d, rfl⟩ := List.getLast?_eq_some_iff.mp hl
  have hd : sep ∉ d := List.count_eq_zero.mp (by simpa [count_eq] using hc)
  rw [cut_append hd, List.dropLast_concat]

end Stun.URI
