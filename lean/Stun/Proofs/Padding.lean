/-
  Padding to 4 bytes: Go's `nearestPaddedValueLength` is the RFC's `pad4`, and the size of TLVs on the wire.
-/
import Stun.Model.Decode
import Stun.Spec.RFC5389
namespace Stun.DecodeProofs
open Stun Stun.Spec

theorem npvl_eq (l : Nat) : nearestPaddedValueLength l = l + pad4 l := by
  unfold nearestPaddedValueLength pad4 padding; simp only; split <;> omega

theorem pad4_lt (n : Nat) : pad4 n < 4 := by unfold pad4; omega
theorem pad4_mod (n : Nat) : (n + pad4 n) % 4 = 0 := by unfold pad4; omega

/-- the guard of `Add`'s padding block tests the 16-bit length; 4 divides 65536 -/
theorem pad4_eq_zero {n : Nat} (h : ¬ (n % 65536) % padding ≠ 0) : pad4 n = 0 := by
  unfold padding at h; unfold pad4; omega

theorem tlvBytes_length (t : Nat) (v p : Bytes) : (tlvBytes t v p).length = 4 + v.length + p.length := by
  simp only [tlvBytes, List.length_append, put16_length]

theorem serialize_cons_length (t : Nat) (v p : Bytes) (r) :
    (serialize ((t, v, p) :: r)).length = 4 + v.length + p.length + (serialize r).length := by
  rw [serialize, List.length_append, tlvBytes_length]

theorem serialize_length_mod4 (xs : List (Nat × Bytes × Bytes)) (h : PadsOK xs) : (serialize xs).length % 4 = 0 := by
  induction xs with
  | nil => rfl
  | cons x r ih =>
    obtain ⟨t, v, p⟩ := x
    obtain ⟨_, _, hp, hr⟩ := h
    rw [serialize_cons_length, hp]
    have := ih hr
    have := pad4_mod v.length
    omega

end Stun.DecodeProofs
