/-
  The client's table and the agent's table stay synchronised (L1): every transaction registered with the client is
  registered with the agent. Consequence: `Close` (whose agent emits a closed event for every registered transaction,
  which the closed client completes) leaves no transaction behind — every handler of a successful Start has been
  invoked when Close returns.
  The argument: an operation of the agent (`Collect`, `Process`, `Close`) takes away only transactions it reports; the
  callback for a reported transaction settles it (completes it, or registers it again on both sides).
-/
import Stun.Proofs.ClientHistory
namespace Stun.ClientProofs
open Stun Stun.Client

def Sync (c : Client) : Prop := ∀ id ∈ ckeys c, id ∈ akeys c.agent

/-- client and agent are open or closed together, and every transaction of the client belongs to an open client and is
    registered with the agent, or is excused: its id is among `evs`, the events still to be handled. ("Open client" is
    there so that a closed client with nothing excused has an empty table.) -/
structure SInv (c : Client) (evs : List TID) : Prop where
  agent : c.agent.closed = c.closed
  keys : ∀ id ∈ ckeys c, (c.closed = false ∧ id ∈ akeys c.agent) ∨ id ∈ evs

theorem SInv.registered {c : Client} (h : SInv c []) {id : TID} (hid : id ∈ ckeys c) :
    c.closed = false ∧ id ∈ akeys c.agent :=
  (h.keys id hid).resolve_right List.not_mem_nil

theorem SInv.sync {c : Client} (h : SInv c []) : Sync c := fun _ hid => (h.registered hid).2

theorem SInv.empty {c : Client} (h : SInv c []) (hc : c.closed = true) : c.t = [] := by
  apply List.map_eq_nil_iff.mp
  apply List.eq_nil_iff_forall_not_mem.mpr
  intro id hid
  have := (h.registered hid).1
  rw [hc] at this; cases this

/-- an operation of the agent excuses the transactions it takes away -/
theorem SInv.agentOp {c : Client} {a' : Agent} {ids : List TID} (h : SInv c []) (ka : AgentKept c.agent a' ids) :
    SInv { c with agent := a' } ids :=
  ⟨ka.closed.trans h.agent, fun id hid =>
    have ⟨ho, hm⟩ := h.registered hid
    (ka.keys id hm).imp_left fun hm' => ⟨ho, hm'⟩⟩

/-- a step that touches no transaction but `id`, and leaves `id` with the agent if it leaves it with the client,
    settles `id` -/
theorem SInv.settle {c c' : Client} {id : TID} {evs : List TID} (h : SInv c (id :: evs)) (hcl : c'.closed = c.closed)
    (a : AgentKept c.agent c'.agent [id]) (hk : ∀ x ∈ ckeys c', x ≠ id → x ∈ ckeys c)
    (hid : id ∈ ckeys c' → c'.closed = false ∧ id ∈ akeys c'.agent) : SInv c' evs := by
  refine ⟨a.closed.trans (h.agent.trans hcl.symm), fun x hx => ?_⟩
  by_cases hne : x = id
  · subst hne; exact .inl (hid hx)
  · rcases h.keys x (hk x hx hne) with ⟨ho, hm⟩ | hm
    · exact .inl ⟨hcl.trans ho, (a.keys x hm).resolve_right fun hm' => hne (List.mem_singleton.mp hm')⟩
    · exact .inr ((List.mem_cons.mp hm).resolve_left hne)

/-- the callback for an event settles the transaction of the event. Only an open client retransmits, and only there is
    the table invariant needed (the entry found under `id` has that id) -/
theorem callback_sync (c : Client) (hi : c.closed = false → TInv c) (id : TID) (e : CEv) (evs : List TID)
    (h : SInv c (id :: evs)) : SInv (c.callback id e).1 evs := by
  have o := callback_outcome c id e
  generalize c.callback id e = r at o ⊢
  cases o with
  | ignored hl | fallback hl =>
    exact h.settle rfl (.refl _ _) (fun _ hx _ => hx) fun hid => absurd hid ((lookup_none_iff c id).mp hl)
  | completed =>
    exact h.settle rfl (.refl _ _) (fun x hx _ => ((ckeys_erase c id x).mp hx).1) fun hid => absurd hid (not_mem_erase c id)
  | retransmitted tx hl hc _ _ o =>
    have htx := next_id (hi hc) hl
    cases o with
    | written f a hid =>
      refine h.settle f.closed a (fun x hx hne => ?_) fun _ => ⟨f.closed.trans hc, hid⟩
      rw [ckeys_congr f.t, ckeys_insert, ckeys_erase, htx] at hx
      exact (hx.resolve_right hne).1
    | @failed c' _ _ _ f a =>
      have hk : ∀ x ∈ ckeys c', x ∈ ckeys c ∧ x ≠ id := fun x hx => by
        rw [ckeys_congr f.t, ckeys_erase, ckeys_insert, ckeys_erase, htx] at hx
        exact ⟨(hx.1.resolve_right hx.2).1, hx.2⟩
      exact h.settle f.closed a (fun x hx _ => (hk x hx).1) fun hid => absurd rfl (hk id hid).2

theorem callbacks_sync (evs : List (TID × CEv)) (c : Client) (hi : c.closed = false → TInv c)
    (h : SInv c (evs.map (·.1))) : SInv (c.callbacks evs).1 [] := by
  induction evs generalizing c with
  | nil => exact h
  | cons ev r ih =>
    obtain ⟨id, e⟩ := ev
    rw [callbacks_cons]
    refine ih _ (fun hc => ?_) (callback_sync c hi id e _ h)
    have hi' := hi ((callback_kept c id e).1.symm.trans hc)
    exact (callback_moves (cl := false) c hi' id e).tinv hi'

theorem start_sync (c : Client) (h : SInv c []) (id : TID) (raw : Bytes) (handler : Option Nat) :
    SInv (c.start id raw handler).1 [] := by
  cases handler with
  | none =>
    rw [start_none]
    split
    · exact h
    · have f := frame_connWrite c raw
      exact ⟨by rw [connWrite_agent, f.closed]; exact h.agent,
        by rw [connWrite_agent, f.closed, ckeys_congr f.t]; exact h.keys⟩
  | some h0 =>
    have h' : SInv c [id] := ⟨h.agent, fun x hx => (h.keys x hx).imp_right fun hm => nomatch hm⟩
    have o := start_outcome c id raw h0
    generalize c.start id raw (some h0) = r at o ⊢
    cases o with
    | rejected => exact h
    | ok _ hc f a hid =>
      refine h'.settle f.closed a (fun x hx hne => ?_) fun _ => ⟨f.closed.trans hc, hid⟩
      rw [ckeys_congr f.t, ckeys_insert] at hx
      exact hx.resolve_right hne
    | failed _ _ hk f a =>
      exact h'.settle f.closed a (fun x hx _ => ckeys_congr f.t ▸ hx) fun hid => absurd (ckeys_congr f.t ▸ hid) hk

theorem tick_sync (c : Client) (hi : TInv c) (h : SInv c []) (t : Nat) : SInv (c.tick t).1 [] := by
  have h0 := h.agentOp (agentKept_collect c.agent t)
  rw [tick_eq]
  refine callbacks_sync _ ({ c with now := t, agent := (c.agent.collect t).1 } : Client) (fun _ => tinv_congr (c := c) rfl hi)
    ⟨h0.agent, ?_⟩
  rw [List.map_map]
  exact h0.keys

theorem deliverDecoded_sync (c : Client) (hi : TInv c) (h : SInv c []) (tid : TID) (raw : Bytes) :
    SInv (c.deliverDecoded tid raw).1 [] := by
  rcases deliverDecoded_cases c tid raw with e | ⟨_, e⟩ <;> rw [e]
  · exact h
  · exact callback_sync ({ c with agent := (c.agent.process tid).1 } : Client) (fun _ => tinv_congr (c := c) rfl hi) tid _ []
      (h.agentOp (agentKept_process c.agent tid))

/-- `Close`: the agent reports every transaction it has, so every transaction of the client, and the closed client
    keeps none of them -/
theorem close_sync (c : Client) (h : SInv c []) : SInv (c.close).1 [] := by
  cases hc : c.closed with
  | true => rw [close_closed c hc]; exact h
  | false =>
    have ha : c.agent.closed = false := h.agent.trans hc
    rw [close_eq c hc]
    refine callbacks_sync _ _ nofun ⟨(C13.close_spec c.agent ha).2.2.1, fun id hid => .inr ?_⟩
    rw [(C13.close_spec c.agent ha).2.1, List.map_map, List.map_map]
    exact h.sync id hid

theorem close_clears (c : Client) (h : Sync c) (hc : c.closed = false) (ha : c.agent.closed = false) :
    (c.close).1.t = [] :=
  (close_sync c ⟨ha.trans hc.symm, fun id hid => .inl ⟨hc, h id hid⟩⟩).empty (close_flags c hc).1

theorem step_sinv (c : Client) (hi : TInv c) (h : SInv c []) (op : COp) : SInv (c.step op).1 [] := by
  cases op with
  | start id raw handler => exact start_sync c h id raw handler
  | deliver d =>
    rcases deliver_cases c d with e | ⟨_, e⟩ <;> rw [step_deliver, e]
    · exact h
    · exact deliverDecoded_sync c hi h _ _
  | tick t => exact tick_sync c hi h t
  | clock | failWrite | setRTO => exact ⟨h.agent, h.keys⟩
  | close => exact close_sync c h

theorem sinv_init : SInv ({} : Client) [] := ⟨rfl, fun _ hid => nomatch hid⟩

theorem run_sinv (ops : List COp) (c : Client) (hi : TInv c) (h : SInv c []) : SInv (run c ops).1 [] := by
  induction ops generalizing c with
  | nil => exact h
  | cons op r ih => exact ih _ (step_tinv c hi op) (step_sinv c hi h op)

theorem close_leaves_nothing (ops : List COp) (c : Client) (hi : TInv c) (h : SInv c []) :
    (run c (ops ++ [.close])).1.t = [] := by
  rw [run_append]
  exact (close_sync _ (run_sinv ops c hi h)).empty (closed_after_close _)

end Stun.ClientProofs
