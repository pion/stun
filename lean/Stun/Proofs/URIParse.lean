/-
  What each modelled standard-library function does on the inputs that occur, and what a result says about the input:
  `net.SplitHostPort` on what `net.JoinHostPort` writes and on a bracketed host that no ':' follows, and that it accepts
  nothing else; `url.Parse` on `letters:rest` and what a rootless result says about its input; `url.ParseQuery` on a
  single plain `key=value`; `strconv.Atoi` on digit strings. With them the names of uri.go's schemes and transports.
-/
import Stun.Proofs.URIStrings

namespace Stun.C17
open Stun.URI

/-- a character that may appear after the scheme without ending the URL or being a control character -/
def Plain (b : UInt8) : Prop := b ≠ chr '#' ∧ (b.toNat < 0x20 || b.toNat == 0x7f) = false

instance : DecidablePred Plain := fun b => by unfold Plain; infer_instance

end Stun.C17

namespace Stun.URI
open Stun.C17 (Plain)

theorem splitHostPort_plain {host port : Str} (hc : chr ':' ∉ host ++ port)
    (ho : chr '[' ∉ host ++ port) (hcl : chr ']' ∉ host ++ port) :
    splitHostPort (host ++ chr ':' :: port) = .ok (host, port) := by
  rw [List.mem_append, not_or] at hc ho hcl
  have hhead : ((host ++ chr ':' :: port).head? == some (chr '[')) = false := by
    cases host with
    | nil => simp [show chr ':' ≠ chr '[' by decide]
    | cons c r => simpa using fun e : c = chr '[' => ho.1 (e ▸ List.mem_cons_self)
  have hdrop : (host ++ chr ':' :: port).drop (host.length + 1) = port := by simp
  -- the last ':' is the one between host and port, and the string does not begin with '[': what is left are the
  -- tests for ':' in the host (`hc.1`) and for brackets in the whole string (`ho`, `hcl`)
  simp only [splitHostPort, lastIndex_append hc.2, hhead, hdrop]
  simp [hc.1, ho, hcl, show chr '[' ≠ chr ':' by decide, show chr ']' ≠ chr ':' by decide]

theorem splitHostPort_bracket {host port : Str} (hc : chr ':' ∉ port)
    (ho : chr '[' ∉ host ++ port) (hcl : chr ']' ∉ host ++ port) :
    splitHostPort (chr '[' :: (host ++ chr ']' :: chr ':' :: port)) = .ok (host, port) := by
  rw [List.mem_append, not_or] at ho hcl
  have hi : lastIndex (chr ':') (chr '[' :: (host ++ chr ']' :: chr ':' :: port)) = some (host.length + 2) := by
    simpa using lastIndex_append (a := chr '[' :: (host ++ [chr ']'])) hc
  have he : index (chr ']') (chr '[' :: (host ++ chr ']' :: chr ':' :: port)) = some (host.length + 1) :=
    index_append (a := chr '[' :: host) (by simp +decide [hcl.1])
  -- the first ']' (`he`) stands right in front of the last ':' (`hi`); what is left are the tests for '[' behind the
  -- first byte and for ']' behind the port's ':' (`ho`, `hcl`), and the two slices
  simp only [splitHostPort, hi, he]
  simp +decide [ho, hcl]

/-- appending ":3478" to a string of this form leaves it in this form: before the repair of F4 (see Properties/C16)
    `ParseURI`'s default-port retry went on for ever -/
theorem splitHostPort_bracket_no_colon {h t : Str} (hcl : chr ']' ∉ h) (ht : t.head? ≠ some (chr ':')) :
    splitHostPort (chr '[' :: (h ++ chr ']' :: t)) = .error .missingPort := by
  have he : index (chr ']') (chr '[' :: (h ++ chr ']' :: t)) = some (h.length + 1) :=
    index_append (a := chr '[' :: h) (by simp +decide [hcl])
  unfold splitHostPort
  cases hl : lastIndex (chr ':') (chr '[' :: (h ++ chr ']' :: t)) with
  | none => rfl
  | some i =>
    cases t with
    | nil => simp [he]
    | cons c t =>
      have hc : c ≠ chr ':' := by simpa using ht
      -- the last ':' is not right behind the ']': `c` stands there
      have hi : ¬ h.length + 1 + 1 = i := by
        rintro rfl
        have := lastIndex_spec hl
        simp at this
        exact hc this
      simp [he, hi, hc]

/-- the shape of `SplitHostPort`'s last step (`finish`) -/
theorem of_checks_eq_ok {ε α : Type} {s t : Str} {c d : UInt8} {e1 e2 : ε} {x y : α}
    (h : (if s.contains c then .error e1 else if t.contains d then .error e2 else .ok x : Except ε α) = .ok y) :
    c ∉ s ∧ d ∉ t ∧ x = y := by
  split at h
  · cases h
  · next hs =>
    split at h
    · cases h
    · next ht => exact ⟨by simpa using hs, by simpa using ht, by cases h; rfl⟩

theorem splitHostPort_ok_inv {hp host port : Str} (h : splitHostPort hp = .ok (host, port)) :
    ((hp = host ++ chr ':' :: port ∧ chr ':' ∉ host) ∨ hp = chr '[' :: (host ++ chr ']' :: chr ':' :: port)) ∧
      chr ':' ∉ port ∧ chr '[' ∉ host ++ port ∧ chr ']' ∉ host ++ port := by
  -- `by_cases` and `rw [if_pos/if_neg]`, not `split at h`: splitting the whole unfolded definition is slow to check
  unfold splitHostPort at h
  cases hl : lastIndex (chr ':') hp with
  | none => rw [hl] at h; cases h
  | some i =>
    obtain ⟨a, p, rfl, hcp, rfl⟩ := lastIndex_eq_some hl
    rw [hl] at h; dsimp only at h
    by_cases hb : ((a ++ chr ':' :: p).head? == some (chr '[')) = true
    · rw [if_pos hb] at h
      cases he : index (chr ']') (a ++ chr ':' :: p) with
      | none => rw [he] at h; cases h
      | some e =>
        obtain ⟨a', b', e1, ha', rfl⟩ := index_eq_some he
        rw [he] at h; dsimp only at h
        by_cases h1 : (a'.length + 1 == (a ++ chr ':' :: p).length) = true
        · rw [if_pos h1] at h; cases h
        rw [if_neg h1] at h
        by_cases h2 : (a'.length + 1 == a.length) = true
        · rw [if_pos h2] at h
          -- the first ']' is the byte in front of the last ':', and the string begins with '['
          obtain ⟨rfl, rfl⟩ : a = a' ++ [chr ']'] ∧ chr ':' :: p = b' :=
            List.append_inj (e1.trans (List.append_cons ..)) (by rw [List.length_append]; exact (eq_of_beq h2).symm)
          cases a' with
          | nil => exact absurd (by simpa using hb) (show chr ']' ≠ chr '[' by decide)
          | cons c t =>
            obtain rfl : c = chr '[' := by simpa using hb
            obtain ⟨ho, hc, hh⟩ := of_checks_eq_ok h
            obtain ⟨rfl, rfl⟩ : t = host ∧ p = port := by simpa using hh
            -- `ho : '[' ∉ t ++ "]:" ++ p`, `hc : ']' ∉ ':' :: p`, `ha' : ']' ∉ '[' :: t`, taken apart into memberships in
            -- `t` and `p`
            simp at ho hc ha'
            exact ⟨.inr (by simp), hcp, by simp [ho], by simp [hc, ha']⟩
        · rw [if_neg h2] at h; split at h <;> cases h
    · rw [if_neg hb] at h
      by_cases h1 : ((a ++ chr ':' :: p).take a.length).contains (chr ':') = true
      · rw [if_pos h1] at h; cases h
      · rw [if_neg h1] at h
        obtain ⟨ho, hc, hh⟩ := of_checks_eq_ok h
        obtain ⟨rfl, rfl⟩ : a = host ∧ p = port := by simpa using hh
        -- `ho`, `hc`: no bracket in `a ++ ':' :: p`, taken apart into memberships in `a` and `p`
        simp at ho hc h1
        exact ⟨.inl ⟨rfl, h1⟩, hcp, by simp [ho], by simp [hc]⟩

theorem splitHostPort_joinHostPort {host port : Str} (hc : chr ':' ∉ port)
    (ho : chr '[' ∉ host ++ port) (hcl : chr ']' ∉ host ++ port) :
    splitHostPort (joinHostPort host port) = .ok (host, port) := by
  unfold joinHostPort
  split
  · simpa using splitHostPort_bracket hc ho hcl
  · next h => simpa using splitHostPort_plain (by simpa [hc] using h) ho hcl

theorem mem_joinHostPort {host port : Str} {b : UInt8} (h : b ∈ joinHostPort host port) :
    b ∈ host ++ port ∨ b = chr '[' ∨ b = chr ']' ∨ b = chr ':' := by
  unfold joinHostPort at h
  split at h <;> simp only [List.mem_append, List.mem_cons, List.not_mem_nil, or_false] at h ⊢
  · rcases h with ((h | h) | h | h) | h <;> simp [h]
  · rcases h with (h | h) | h <;> simp [h]

/-- `urlParse` with its '?' handling as a cut at the first '?': the special case (the only '?' is the last byte, where
    Go sets `ForceQuery`) leaves the same two strings -/
theorem urlParse_eq (raw : Str) : urlParse raw =
    (let (u, frag, _) := cut (chr '#') raw
     if containsCTL u then .error else
     if u == lit "*" then (if badEscape frag then .error else .other []) else
     match getScheme u with
     | none => .error
     | some (scheme, rest) =>
       let scheme := scheme.map toLowerB
       let (rest, rawQuery, _) := cut (chr '?') rest
       if rest.head? ≠ some (chr '/') then
         if scheme ≠ [] then
           if frag ≠ [] ∧ badEscape frag then .error else .rootless scheme rest rawQuery
         else .other []
       else .other scheme) := by
  have hq (rest : Str) : (if rest.getLast? == some (chr '?') && count (chr '?') rest == 1 then (rest.dropLast, [])
      else ((cut (chr '?') rest).1, (cut (chr '?') rest).2.1)) = ((cut (chr '?') rest).1, (cut (chr '?') rest).2.1) := by
    split
    · next h =>
      obtain ⟨hl, hc⟩ : rest.getLast? = some (chr '?') ∧ count (chr '?') rest = 1 := by simpa using h
      rw [cut_last hl hc]
    · rfl
  unfold urlParse
  simp only [hq]
  rfl

theorem urlParse_rootless_inv {raw scheme opq q : Str} (h : urlParse raw = .rootless scheme opq q) :
    ∃ sc rest f, containsCTL (cut (chr '#') raw).1 = false ∧ getScheme (cut (chr '#') raw).1 = some (sc, rest) ∧
      scheme = sc.map toLowerB ∧ cut (chr '?') rest = (opq, q, f) := by
  -- no `split at h` on the whole definition, as in `splitHostPort_ok_inv`
  rw [urlParse_eq] at h
  rcases hcut : cut (chr '#') raw with ⟨u, frag, _⟩
  rw [hcut] at h
  dsimp only at h ⊢
  by_cases hctl : containsCTL u = true
  · rw [if_pos hctl] at h; cases h
  by_cases hstar : (u == lit "*") = true
  · rw [if_neg hctl, if_pos hstar] at h; split at h <;> cases h
  rw [if_neg hctl, if_neg hstar] at h
  cases hg : getScheme u with
  | none => rw [hg] at h; cases h
  | some p =>
    rw [hg] at h
    refine ⟨p.1, p.2, (cut (chr '?') p.2).2.2, by simpa using hctl, rfl, ?_⟩
    dsimp only at h
    by_cases h1 : (cut (chr '?') p.2).1.head? ≠ some (chr '/')
    · rw [if_pos h1] at h
      by_cases h2 : p.1.map toLowerB ≠ []
      · rw [if_pos h2] at h
        by_cases h3 : frag ≠ [] ∧ badEscape frag = true
        · rw [if_pos h3] at h; cases h
        · rw [if_neg h3] at h; cases h; exact ⟨rfl, rfl⟩
      · rw [if_neg h2] at h; cases h
    · rw [if_neg h1] at h; cases h

theorem getSchemeAux_rest {orig : Str} {i : Nat} {acc s sc rest : Str}
    (h : getSchemeAux orig i acc s = some (sc, rest)) : rest = orig ∨ rest <:+ s := by
  -- `cases h` is tried on every case first: a branch that returns gives `orig` (cases 1, 3, 7), the tail at hand
  -- (case 6) or nothing (case 5, closed by it); the two recursive calls go on with the tail
  fun_induction getSchemeAux orig i acc s with try cases h
  | case1 | case3 | case7 => exact .inl rfl
  | case2 _ _ _ _ _ ih | case4 _ _ _ _ _ _ _ ih => exact (ih h).imp_right (·.trans (List.suffix_cons ..))
  | case6 => exact .inr (List.suffix_cons ..)

theorem getScheme_rest {u sc rest : Str} (h : getScheme u = some (sc, rest)) : rest <:+ u := by
  rcases getSchemeAux_rest h with rfl | hs
  · exact List.suffix_refl _
  · exact hs

theorem getSchemeAux_alpha (orig : Str) (i : Nat) (acc t rest : Str) (ht : ∀ b ∈ t, isAlpha b = true)
    (h0 : i + t.length ≠ 0) : getSchemeAux orig i acc (t ++ chr ':' :: rest) = some (acc ++ t, rest) := by
  induction t generalizing i acc with
  | nil =>
    -- ':' is no letter and none of the other characters of a scheme, and it is not the first byte (`h0`)
    rw [List.nil_append, getSchemeAux, if_neg (by decide), if_neg (by decide), if_pos BEq.rfl,
      if_neg (mt eq_of_beq (show i ≠ 0 from h0)), List.append_nil]
  | cons c r ih =>
    rw [List.cons_append, getSchemeAux, if_pos (ht c List.mem_cons_self),
      ih _ _ (fun b hb => ht b (List.mem_cons_of_mem _ hb)) (by simp), List.append_assoc]
    rfl

theorem getScheme_alpha {t rest : Str} (hne : t ≠ []) (ht : ∀ b ∈ t, isAlpha b = true) :
    getScheme (t ++ chr ':' :: rest) = some (t, rest) :=
  getSchemeAux_alpha _ 0 [] t rest ht (by simpa [List.length_eq_zero_iff] using hne)

theorem containsCTL_of_plain {s : Str} (h : ∀ b ∈ s, Plain b) : containsCTL s = false :=
  List.any_eq_false.mpr fun b hb => by simp [(h b hb).2]

theorem plain_of_isAlpha {b : UInt8} (h : isAlpha b = true) : Plain b := by
  have hb : 97 ≤ b.toNat ∧ b.toNat ≤ 122 ∨ 65 ≤ b.toNat ∧ b.toNat ≤ 90 := by simpa [isAlpha] using h
  refine ⟨fun e => ?_, ?_⟩
  · rw [e] at h; exact absurd h (by decide)
  · have : ¬ b.toNat < 32 ∧ ¬ b.toNat = 127 := by omega
    simp [this]

theorem urlParse_of_scheme {sc rest : Str} (hne : sc ≠ []) (ha : ∀ b ∈ sc, isAlpha b = true)
    (hp : ∀ b ∈ rest, Plain b) (hhead : (cut (chr '?') rest).1.head? ≠ some (chr '/')) :
    urlParse (sc ++ chr ':' :: rest) = .rootless (sc.map toLowerB) (cut (chr '?') rest).1 (cut (chr '?') rest).2.1 := by
  have hpl : ∀ b ∈ sc ++ chr ':' :: rest, Plain b :=
    List.forall_mem_append.mpr ⟨fun b hb => plain_of_isAlpha (ha b hb),
      List.forall_mem_cons.mpr ⟨⟨by decide, by decide⟩, hp⟩⟩
  have hstar : (sc ++ chr ':' :: rest == lit "*") = false :=  -- "*" has no ':'
    beq_false_of_ne fun e => absurd (e ▸ List.mem_append_right sc List.mem_cons_self) (by decide)
  rw [urlParse_eq, cut_of_not_mem fun hm => (hpl _ hm).1 rfl]
  simp [containsCTL_of_plain hpl, hstar, getScheme_alpha hne ha, hhead, hne]

theorem Scheme.str_alpha (sch : Scheme) : ∀ b ∈ sch.str, isAlpha b = true := by cases sch <;> decide +kernel
theorem Scheme.str_toLower (sch : Scheme) : sch.str.map toLowerB = sch.str := by cases sch <;> decide +kernel
theorem Scheme.str_ne_nil (sch : Scheme) : sch.str ≠ [] := by cases sch <;> decide +kernel
theorem newSchemeType_str (sch : Scheme) : newSchemeType sch.str = some sch := by cases sch <;> decide +kernel

theorem badEscape_plain {s : Str} (h : chr '%' ∉ s) : badEscape s = false := by
  induction s with
  | nil => rfl
  | cons c r ih =>
    rw [List.mem_cons, not_or] at h
    unfold badEscape; rw [if_neg (by simpa using Ne.symm h.1)]; exact ih h.2

theorem queryUnescape_go_plain {s : Str} (h : chr '%' ∉ s) (hp : chr '+' ∉ s) : queryUnescape.go s = s := by
  induction s with
  | nil => rfl
  | cons c r ih =>
    rw [List.mem_cons, not_or] at h hp
    unfold queryUnescape.go; rw [if_neg (by simpa using Ne.symm hp.1), if_neg (by simpa using Ne.symm h.1), ih h.2 hp.2]

theorem queryUnescape_plain {s : Str} (h : chr '%' ∉ s) (hp : chr '+' ∉ s) : queryUnescape s = some s := by
  simp [queryUnescape, badEscape_plain h, queryUnescape_go_plain h hp]

theorem parseQueryAux_nil (fuel : Nat) (m : List (Str × List Str)) (err : Bool) :
    parseQueryAux fuel [] m err = (m, err) := by
  cases fuel <;> rfl

theorem parseQuery_pair {k v : Str} (heq : chr '=' ∉ k)
    (h : ∀ b ∈ k ++ v, b ≠ chr '&' ∧ b ≠ chr ';' ∧ b ≠ chr '%' ∧ b ≠ chr '+') :
    parseQuery (k ++ chr '=' :: v) = ([(k, [v])], false) := by
  have hamp : chr '&' ∉ k ++ chr '=' :: v := by simpa +decide using fun hm => (h _ (List.mem_append.mpr hm)).1 rfl
  have hsemi : chr ';' ∉ k ++ chr '=' :: v := by simpa +decide using fun hm => (h _ (List.mem_append.mpr hm)).2.1 rfl
  have hu : ∀ s, s ⊆ k ++ v → queryUnescape s = some s := fun s hs =>
    queryUnescape_plain (fun hm => (h _ (hs hm)).2.2.1 rfl) (fun hm => (h _ (hs hm)).2.2.2 rfl)
  have hne : (k ++ chr '=' :: v == []) = false := by cases k <;> simp
  rw [parseQuery, parseQueryAux]
  simp [hne, cut_of_not_mem hamp, cut_append heq, hsemi, hu k (List.subset_append_left _ _),
    hu v (List.subset_append_right _ _), parseQueryAux_nil]

theorem newProtoType_str (p : Proto) : newProtoType p.str = some p := by cases p <;> decide +kernel

theorem valuesGet_singleton (k v : Str) : valuesGet [(k, [v])] k = v := by simp [valuesGet, List.lookup]

/-- the value `atoi` folds out of a digit string -/
def digitsVal (ds : Str) : Nat := ds.foldl (fun acc d => acc * 10 + (d.toNat - 48)) 0

theorem chr_digit {c : Char} (h : c.isDigit = true) : (chr c).toNat = c.toNat ∧ isDigit (chr c) = true := by
  -- `h : 48 ≤ c.val.toNat ∧ c.val.toNat ≤ 57`; the byte `chr c` has the same number, below 256
  simp only [Char.isDigit, Bool.and_eq_true, decide_eq_true_eq, ge_iff_le, UInt32.le_iff_toNat_le] at h
  have hv : c.toNat = c.val.toNat := rfl
  have e : (chr c).toNat = c.toNat := by simp [chr] at h ⊢; omega
  refine ⟨e, ?_⟩
  simp [isDigit, e] at h ⊢; omega

theorem foldl_map_chr {l : List Char} (h : ∀ c ∈ l, c.isDigit = true) (init : Nat) :
    (l.map chr).foldl (fun acc d => acc * 10 + (d.toNat - 48)) init = Nat.ofDigitChars 10 l init := by
  induction l generalizing init with
  | nil => rfl
  | cons c r ih =>
    rw [List.map_cons, List.foldl_cons, Nat.ofDigitChars_cons, (chr_digit (h c List.mem_cons_self)).1, Nat.mul_comm]
    exact ih (fun c hc => h c (List.mem_cons_of_mem _ hc)) _

theorem itoaNat_eq (n : Nat) : itoaNat n = (Nat.toDigits 10 n).map chr := by
  simp [itoaNat, Nat.toString_eq_repr, Nat.toList_repr]

theorem isDigit_of_mem_itoaNat {n : Nat} {b : UInt8} (h : b ∈ itoaNat n) : isDigit b = true := by
  rw [itoaNat_eq, List.mem_map] at h
  obtain ⟨c, hc, rfl⟩ := h
  exact (chr_digit (Nat.isDigit_of_mem_toDigits (by decide) (by decide) hc)).2

theorem isDigit_of_mem_itoa {p : Int} (h : 0 ≤ p) {b : UInt8} (hb : b ∈ itoa p) : isDigit b = true := by
  rw [itoa, if_neg (by omega)] at hb; exact isDigit_of_mem_itoaNat hb

theorem itoaNat_ne_nil (n : Nat) : itoaNat n ≠ [] := by
  simp [itoaNat_eq, Nat.toDigits_ne_nil]

theorem digitsVal_itoaNat (n : Nat) : digitsVal (itoaNat n) = n := by
  rw [itoaNat_eq, digitsVal, foldl_map_chr fun c hc => Nat.isDigit_of_mem_toDigits (by decide) (by decide) hc]
  exact Nat.ofDigitChars_ten_toDigits

theorem atoi_digits {ds : Str} (hne : ds ≠ []) (hd : ∀ b ∈ ds, isDigit b = true)
    (hv : digitsVal ds ≤ 9223372036854775807) : atoi ds = some (digitsVal ds : Int) := by
  cases ds with
  | nil => exact absurd rfl hne
  | cons c r =>
    have hc := hd c List.mem_cons_self
    have e1 : (c == chr '-') = false := beq_false_of_ne fun e => absurd (e ▸ hc) (by decide)
    have e2 : (c == chr '+') = false := beq_false_of_ne fun e => absurd (e ▸ hc) (by decide)
    unfold digitsVal at hv ⊢
    -- no sign is taken off; left are the two tests of `atoi`: all are digits (`hd`), and the value is within int64 (`hv`)
    simp only [atoi, e1, e2, Bool.false_eq_true, if_false]
    rw [List.all_eq_true.mpr hd, if_neg (by simp), if_pos hv]

theorem atoi_itoaNat (n : Nat) (h : n ≤ 9223372036854775807) : atoi (itoaNat n) = some (n : Int) := by
  have hv := digitsVal_itoaNat n
  -- rewrite the bound with `hv` before use: unified against the numeral as it stands, `itoaNat n` gets evaluated
  rw [atoi_digits (itoaNat_ne_nil n) (fun b => isDigit_of_mem_itoaNat) (by rw [hv]; exact h), hv]

theorem atoi_itoa_of_nonneg (p : Int) (h0 : 0 ≤ p) (h1 : p ≤ 9223372036854775807) : atoi (itoa p) = some p := by
  obtain ⟨n, rfl⟩ := Int.eq_ofNat_of_zero_le h0
  rw [itoa, if_neg (by omega), Int.natAbs_natCast, atoi_itoaNat n (by omega)]

end Stun.URI
