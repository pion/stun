/-
  The client's transaction table: keys, lookup, insert and erase; the table invariant; where the entries come from
  (`FromStarts`); `tabW`, the weight of a table: the counting arguments use it only through its lemmas (insert, erase,
  same table, and that erasing never adds); and `Frame`: two clients that are the same in every field a table property
  looks at.
-/
import Stun.Model.Client
import Stun.Proofs.Agent
namespace Stun.ClientProofs
open Stun Stun.Client

def ckeys (c : Client) : List TID := c.t.map (·.1)

theorem lookup_iff (c : Client) (id : TID) : (c.lookup id).isSome = true ↔ id ∈ ckeys c := by
  simp [Client.lookup, ckeys]

theorem lookup_none_iff (c : Client) (id : TID) : c.lookup id = none ↔ id ∉ ckeys c := by
  rw [← lookup_iff]; cases c.lookup id <;> simp

theorem ckeys_erase (c : Client) (id id' : TID) : id' ∈ ckeys (c.erase id) ↔ id' ∈ ckeys c ∧ id' ≠ id :=
  mem_keys_filter c.t id id'

theorem ckeys_insert (c : Client) (tx : Txn) (id' : TID) : id' ∈ ckeys (c.insert tx) ↔ id' ∈ ckeys c ∨ id' = tx.id := by
  simp [ckeys, Client.insert, eq_comm]

theorem ckeys_congr {c c' : Client} (h : c'.t = c.t) : ckeys c' = ckeys c := by unfold ckeys; rw [h]

theorem lookup_congr (c c' : Client) (h : c'.t = c.t) (id : TID) : c'.lookup id = c.lookup id := by
  unfold Client.lookup; rw [h]

theorem not_mem_erase (c : Client) (id : TID) : id ∉ ckeys (c.erase id) := fun h => ((ckeys_erase c id id).mp h).2 rfl

theorem lookup_mem {c : Client} {id : TID} {tx : Txn} (h : c.lookup id = some tx) : (id, tx) ∈ c.t := by
  simp only [Client.lookup, Option.map_eq_some_iff] at h
  obtain ⟨p, hp, rfl⟩ := h
  have hk : p.1 = id := by simpa using List.find?_some hp
  exact hk ▸ List.mem_of_find?_eq_some hp

theorem erase_absent {c : Client} {id : TID} (hk : id ∉ ckeys c) : (c.erase id).t = c.t :=
  List.filter_eq_self.mpr fun p hp => by
    have : p.1 ≠ id := fun e => hk (List.mem_map.mpr ⟨p, hp, e⟩)
    simpa using this

theorem erase_insert {c : Client} {tx : Txn} (hk : tx.id ∉ ckeys c) : ((c.insert tx).erase tx.id).t = c.t := by
  show (c.t ++ [(tx.id, tx)]).filter _ = c.t
  rw [List.filter_append, show c.t.filter _ = c.t from erase_absent hk]
  simp

theorem lookup_insert_self (c : Client) (tx : Txn) (hk : tx.id ∉ ckeys c) : (c.insert tx).lookup tx.id = some tx := by
  have : c.t.find? (fun p => p.1 == tx.id) = none := Option.map_eq_none_iff.mp ((lookup_none_iff c tx.id).mpr hk)
  simp [Client.lookup, Client.insert, List.find?_append, this]

structure TInv (c : Client) : Prop where
  keyId : ∀ p ∈ c.t, p.1 = p.2.id
  nodup : (ckeys c).Nodup

theorem tinv_congr {c c' : Client} (h : c'.t = c.t) (hi : TInv c) : TInv c' :=
  ⟨h ▸ hi.keyId, ckeys_congr h ▸ hi.nodup⟩

theorem tinv_erase {c : Client} (id : TID) (h : TInv c) : TInv (c.erase id) :=
  ⟨fun p hp => h.keyId p (List.mem_filter.mp hp).1, h.nodup.sublist (List.filter_sublist.map _)⟩

theorem tinv_insert {c : Client} (tx : Txn) (h : TInv c) (hk : tx.id ∉ ckeys c) : TInv (c.insert tx) := by
  refine ⟨?_, ?_⟩
  · intro p hp
    rcases List.mem_append.mp hp with hp | hp
    · exact h.keyId p hp
    · rw [List.mem_singleton.mp hp]
  · unfold ckeys Client.insert
    simp only [List.map_append, List.map_cons, List.map_nil]
    rw [List.nodup_append]
    refine ⟨h.nodup, by simp, ?_⟩
    intro a ha b hb
    simp only [List.mem_singleton] at hb; subst hb
    intro hab; subst hab; exact hk ha

theorem tinv_init : TInv ({} : Client) := ⟨by simp, by simp [ckeys]⟩

theorem lookup_id {c : Client} (hi : TInv c) {id : TID} {tx : Txn} (hl : c.lookup id = some tx) : tx.id = id :=
  (hi.keyId _ (lookup_mem hl)).symm

/-- provenance of the entries of a table: every entry carries a (handler, id, raw) triple from `S` -/
def FromStarts (S : List (Nat × TID × Bytes)) (c : Client) : Prop :=
  ∀ p ∈ c.t, (p.2.h, p.2.id, p.2.raw) ∈ S

theorem fromStarts_congr {S} {c c' : Client} (h : c'.t = c.t) (hf : FromStarts S c) : FromStarts S c' :=
  fun p hp => hf p (h ▸ hp)

theorem fromStarts_erase {S} {c : Client} (id : TID) (h : FromStarts S c) : FromStarts S (c.erase id) :=
  fun p hp => h p (List.mem_filter.mp hp).1

theorem fromStarts_mono {S S' : List (Nat × TID × Bytes)} {c : Client} (h : FromStarts S c) (hs : ∀ x ∈ S, x ∈ S') :
    FromStarts S' c := fun p hp => hs _ (h p hp)

theorem fromStarts_insert {S} {c : Client} (hf : FromStarts S c) {tx : Txn} (h : (tx.h, tx.id, tx.raw) ∈ S) :
    FromStarts S (c.insert tx) := by
  intro p hp
  rcases List.mem_append.mp hp with hp | hp
  · exact hf p hp
  · rw [List.mem_singleton.mp hp]; exact h

theorem fromStarts_lookup {S} {c : Client} (hi : TInv c) (hf : FromStarts S c) {id : TID} {tx : Txn}
    (hl : c.lookup id = some tx) : (tx.h, id, tx.raw) ∈ S := by
  rw [← lookup_id hi hl]; exact hf _ (lookup_mem hl)

theorem fromStarts_init (S) : FromStarts S ({} : Client) := nofun

/-- handlers pending in the table -/
def pend (h : Nat) (c : Client) : Nat := (c.t.filter (fun p => p.2.h == h)).length
def calls (h : Nat) (outs : List COut) : Nat :=
  (outs.filter (fun o => match o with | .call h' _ _ => h' == h | _ => false)).length

theorem calls_append (h : Nat) (a b : List COut) : calls h (a ++ b) = calls h a + calls h b := by
  simp [calls, List.filter_append]

theorem calls_single_call (h h' : Nat) (id : TID) (e : CEv) :
    calls h [COut.call h' id e] = if h' == h then 1 else 0 := by
  simp only [calls, List.filter_cons]; split <;> rfl

def tabW (w : Txn → Nat) (c : Client) : Nat := (c.t.map (fun p => w p.2)).sum

theorem tabW_congr (w : Txn → Nat) {c c' : Client} (h : c'.t = c.t) : tabW w c' = tabW w c := by unfold tabW; rw [h]

theorem tabW_insert (w : Txn → Nat) (c : Client) (tx : Txn) : tabW w (c.insert tx) = tabW w c + w tx := by
  simp [tabW, Client.insert]

theorem tabW_erase (w : Txn → Nat) {c : Client} (hi : TInv c) {id : TID} {tx : Txn} (hl : c.lookup id = some tx) :
    tabW w (c.erase id) + w tx = tabW w c := by
  have hm := lookup_mem hl
  have hn : (c.t.map (·.1)).Nodup := hi.nodup
  show ((c.t.filter _).map _).sum + w tx = (c.t.map _).sum
  generalize c.t = l at hm hn
  induction l with
  | nil => cases hm
  | cons p r ih =>
    rw [List.map_cons, List.nodup_cons] at hn
    rcases List.mem_cons.mp hm with e | hm
    · -- the entry found; its key does not occur again
      subst e
      have : r.filter (fun q => q.1 != id) = r := List.filter_eq_self.mpr fun q hq => by
        have : q.1 ≠ id := fun e => hn.1 (List.mem_map.mpr ⟨q, hq, e⟩)
        simpa using this
      simp only [List.filter_cons, bne_self_eq_false, Bool.false_eq_true, if_false, this, List.map_cons, List.sum_cons]
      exact Nat.add_comm _ _
    · have hne : p.1 ≠ id := fun e => hn.1 (List.mem_map.mpr ⟨(id, tx), hm, e.symm⟩)
      simp only [List.filter_cons, bne_iff_ne, ne_eq, hne, not_false_eq_true, if_true, List.map_cons, List.sum_cons]
      rw [Nat.add_assoc, ih hm hn.2]

/-- without the table invariant (so not from `tabW_erase`): the budget's `complete` case and the L2 move `forget` erase
    by id without knowing whose entry it is -/
theorem tabW_erase_le (w : Txn → Nat) (c : Client) (id : TID) : tabW w (c.erase id) ≤ tabW w c := by
  show ((c.t.filter _).map _).sum ≤ (c.t.map _).sum
  induction c.t with
  | nil => exact Nat.le_refl _
  | cons p r ih =>
    simp only [List.filter_cons]
    split <;> simp only [List.map_cons, List.sum_cons] <;> omega

theorem length_filter_eq_sum {α} (p : α → Bool) (l : List α) :
    (l.filter p).length = (l.map (fun x => if p x then 1 else 0)).sum := by
  induction l with
  | nil => rfl
  | cons a r ih => by_cases h : p a <;> simp [h, ih] <;> omega

theorem pend_eq (h : Nat) (c : Client) : pend h c = tabW (fun tx => if tx.h == h then 1 else 0) c :=
  length_filter_eq_sum _ _

theorem pend_congr {c c' : Client} (h : c'.t = c.t) (x : Nat) : pend x c' = pend x c := by unfold pend; rw [h]

theorem pend_withAgent (h : Nat) (c : Client) (a : Agent) : pend h { c with agent := a } = pend h c := rfl

theorem pend_insert (c : Client) (tx : Txn) (h : Nat) :
    pend h (c.insert tx) = pend h c + (if tx.h == h then 1 else 0) := by
  rw [pend_eq, pend_eq, tabW_insert]

theorem pend_erase {c : Client} (hi : TInv c) {id : TID} {tx : Txn} (hl : c.lookup id = some tx) (h : Nat) :
    pend h (c.erase id) + (if tx.h == h then 1 else 0) = pend h c := by
  rw [pend_eq, pend_eq, tabW_erase _ hi hl]

theorem pend_erase_absent (c : Client) (id : TID) (hk : id ∉ ckeys c) (h : Nat) : pend h (c.erase id) = pend h c :=
  pend_congr (erase_absent hk) h

/-- the transaction as registered again by a retransmission -/
abbrev next (tx : Txn) : Txn := { tx with attempt := tx.attempt + 1 }

/-- the transaction as registered by `Start` -/
abbrev started (c : Client) (id : TID) (raw : Bytes) (h : Nat) : Txn := ⟨id, 0, c.rto, raw, h, c.now⟩

theorem next_id {c : Client} (hi : TInv c) {id : TID} {tx : Txn} (hl : c.lookup id = some tx) : (next tx).id = id :=
  lookup_id (tx := tx) hi hl

/-- a transaction's write, if it was made: the flag says that `Connection.Write` was called, not that it succeeded -/
abbrev wrote (w : Bool) (raw : Bytes) (h : Nat) : List COut := if w then [.write raw (some h)] else []

theorem mem_wrote {x : COut} {w : Bool} {raw : Bytes} {h : Nat} (hm : x ∈ wrote w raw h) : x = .write raw (some h) := by
  cases w
  · cases hm
  · exact List.mem_singleton.mp hm

theorem calls_wrote (h : Nat) (w : Bool) (raw : Bytes) (h' : Nat) : calls h (wrote w raw h') = 0 := by
  cases w <;> rfl

/-- same table, closed flag and options; the agent, the scripted connection with its error switches, the clock and the
    RTO of later transactions are free -/
structure Frame (c c' : Client) : Prop where
  t : c'.t = c.t
  closed : c'.closed = c.closed
  maxAttempts : c'.maxAttempts = c.maxAttempts
  closeConn : c'.closeConn = c.closeConn
  hasFallback : c'.hasFallback = c.hasFallback

theorem Frame.refl (c : Client) : Frame c c := ⟨rfl, rfl, rfl, rfl, rfl⟩

theorem Frame.trans {a b c : Client} (h1 : Frame a b) (h2 : Frame b c) : Frame a c :=
  ⟨h2.t.trans h1.t, h2.closed.trans h1.closed, h2.maxAttempts.trans h1.maxAttempts, h2.closeConn.trans h1.closeConn,
   h2.hasFallback.trans h1.hasFallback⟩

theorem Frame.tinv {c c' : Client} (f : Frame c c') (hi : TInv c) : TInv c' := tinv_congr f.t hi

theorem Frame.erase {c c' : Client} (f : Frame c c') (id : TID) : Frame (c.erase id) (c'.erase id) :=
  ⟨congrArg (List.filter _) f.t, f.closed, f.maxAttempts, f.closeConn, f.hasFallback⟩

theorem frame_erase_insert {c : Client} {tx : Txn} (hk : tx.id ∉ ckeys c) : Frame c ((c.insert tx).erase tx.id) :=
  ⟨erase_insert hk, rfl, rfl, rfl, rfl⟩

theorem frame_agent (c : Client) (a : Agent) : Frame c { c with agent := a } := ⟨rfl, rfl, rfl, rfl, rfl⟩

theorem frame_connWrite (c : Client) (raw : Bytes) : Frame c (c.connWrite raw).1 := by
  unfold Client.connWrite; split <;> exact ⟨rfl, rfl, rfl, rfl, rfl⟩

theorem frame_agent_write (c : Client) (a : Agent) (raw : Bytes) :
    Frame c (({ c with agent := a } : Client).connWrite raw).1 :=
  (frame_agent c a).trans (frame_connWrite _ raw)

theorem connWrite_agent (c : Client) (raw : Bytes) : (c.connWrite raw).1.agent = c.agent := by
  unfold Client.connWrite; split <;> rfl

theorem connWrite_clock (c : Client) (raw : Bytes) :
    (c.connWrite raw).1.now = c.now ∧ (c.connWrite raw).1.rto = c.rto := by
  unfold Client.connWrite; split <;> exact ⟨rfl, rfl⟩

end Stun.ClientProofs
