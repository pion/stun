/-
  What a decoder sees in a canonical message: its RFC parse is the struct's content, so decoding gives the struct back.
-/
import Stun.Proofs.Canonical
import Stun.Proofs.DecodeMsg
namespace Stun.BuildProofs
open Stun Stun.Msg Stun.Spec Stun.DecodeProofs

/-- how a struct attribute comes back from the decoder: same length and value; the type through the 0x8020 alias -/
def aliasAttr (a : RawAttr) : RawAttr := ⟨compat a.typ, a.length, a.val⟩

theorem map_aliasAttr {as : List RawAttr} (hal : ∀ a ∈ as, a.typ ≠ 0x8020) : as.map aliasAttr = as :=
  (List.map_congr_left (fun a ha => by simp [aliasAttr, compat, hal a ha])).trans (List.map_id as)

theorem find_alias_append {as : List RawAttr} {a : RawAttr} {t : Nat} (hfresh : ∀ x ∈ as, compat x.typ ≠ t)
    (ha : compat a.typ = t) : ((as ++ [a]).map aliasAttr).find? (fun x => x.typ == t) = some (aliasAttr a) := by
  have hnone : (as.map aliasAttr).find? (fun x => x.typ == t) = none := by
    rw [List.find?_eq_none]
    intro x hx
    obtain ⟨x0, hx0, rfl⟩ := List.mem_map.mp hx
    simpa [aliasAttr] using hfresh x0 hx0
  rw [List.map_append, List.find?_append, hnone]
  simp [aliasAttr, ha]

theorem padsOK_wire (as : List RawAttr) (h : AttrsWF as) : PadsOK (as.map wireOf) := by
  induction as with
  | nil => trivial
  | cons a r ih =>
    have ha := h a List.mem_cons_self
    refine ⟨ha.2.1, ha.2.2, by simp [zeros], ih (fun b hb => h b (List.mem_cons_of_mem _ hb))⟩

theorem attrsOf_wire (as : List RawAttr) (off : Nat) (h : AttrsWF as) :
    (attrsOf off (as.map wireOf)).map attrOfSpec = as.map aliasAttr := by
  induction as generalizing off with
  | nil => rfl
  | cons a r ih =>
    have ha := h a List.mem_cons_self
    simp only [List.map_cons, wireOf, attrsOf, attrOfSpec, aliasAttr, ha.1]
    rw [← ih _ (fun b hb => h b (List.mem_cons_of_mem _ hb))]

theorem canonical_rfcParse (m : Msg) (h : Canonical m) (hm : m.method < 4096) (hc : m.cls < 4) :
    rfcParse m.raw = some ⟨m.method, m.cls, m.length, m.tid, attrsOf 20 (m.attrs.map wireOf)⟩ := by
  have hck := be32_headerL m m.length []
  have hlen := be16_headerL m h.fits []
  rw [List.append_nil] at hck hlen
  have key := C02.rfcParse_complete (headerL m (put16 m.length)) [] (m.attrs.map wireOf)
    (headerL_length m _ h.tidLen rfl) hck (hlen.trans h.length) (padsOK_wire m.attrs h.attrs)
  have htyp : be16 (headerL m (put16 m.length)) = typeValue m.method m.cls := by
    simp only [headerL, List.append_assoc]
    exact be16_put16_append _ (Nat.lt_trans (C19.typeValue_lt ..) (by decide)) _
  have htid : ((headerL m (put16 m.length)).drop 8).take 12 = m.tid := by
    rw [headerL, List.drop_left' (by rfl)]
    exact List.take_of_length_le (Nat.le_of_eq h.tidLen)
  have hl : (serialize (m.attrs.map wireOf)).length = m.length := h.length.symm
  -- in what `rfcParse_complete` reports, the header reads become the struct's fields
  rw [List.append_nil, htyp, htid, hl, C19.typeValue_arith, C19.fig3Method_fig3, C19.fig3Class_fig3,
    Nat.mod_eq_of_lt hm, Nat.mod_eq_of_lt hc] at key
  rw [h.raw]
  exact key

theorem decodeFrom_canonical (m b : Msg) (h : Canonical m) (hm : m.method < 4096) (hc : m.cls < 4) :
    b.decodeFrom m.raw = ({ b.setRaw m.raw with method := m.method, cls := m.cls, length := m.length, tid := m.tid,
                                                 attrs := m.attrs.map aliasAttr }, .ok ()) := by
  rw [decodeFrom_of_parse b (canonical_rfcParse m h hm hc)]; dsimp only
  rw [attrsOf_wire m.attrs 20 h.attrs]

theorem canonical_decode (m b : Msg) (h : Canonical m) (hm : m.method < 4096) (hc : m.cls < 4) :
    (b.decodeFrom m.raw).2 = .ok () ∧
    (b.decodeFrom m.raw).1.method = m.method ∧ (b.decodeFrom m.raw).1.cls = m.cls ∧
    (b.decodeFrom m.raw).1.length = m.length ∧ (b.decodeFrom m.raw).1.tid = m.tid ∧
    (b.decodeFrom m.raw).1.attrs = m.attrs.map aliasAttr ∧ (b.decodeFrom m.raw).1.raw = m.raw := by
  rw [decodeFrom_canonical m b h hm hc]
  exact ⟨rfl, rfl, rfl, rfl, rfl, rfl, setRaw_raw b m.raw⟩

end Stun.BuildProofs
