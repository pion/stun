/-
  `Encode` (= truncate, WriteHeader, Length := 0, WriteAttributes) reproduces the canonical bytes of the struct.
-/
import Stun.Proofs.SameObs
namespace Stun.BuildProofs
open Stun Stun.Msg Stun.Spec

theorem fold_add_fields (as : List RawAttr) (m : Msg) :
    (as.foldl (fun m a => m.add a.typ a.val) m).method = m.method ∧
    (as.foldl (fun m a => m.add a.typ a.val) m).cls = m.cls ∧
    (as.foldl (fun m a => m.add a.typ a.val) m).tid = m.tid ∧
    (as.foldl (fun m a => m.add a.typ a.val) m).attrs =
      m.attrs ++ as.map (fun a => ⟨a.typ, a.val.length % 65536, a.val⟩) := by
  induction as generalizing m with
  | nil => simp
  | cons a r ih => simp [ih]

theorem map_attr_eta {as : List RawAttr} (hwf : AttrsWF as) :
    as.map (fun a => (⟨a.typ, a.val.length % 65536, a.val⟩ : RawAttr)) = as :=
  (List.map_congr_left (fun a ha => by rw [Nat.mod_eq_of_lt (hwf a ha).2.2, ← (hwf a ha).1]; rfl)).trans (List.map_id as)

/-- `WriteAttributes` puts the original list back; for well-formed attributes the fold has rebuilt exactly it -/
theorem writeAttributes_eq {m : Msg} (hwf : AttrsWF m.attrs) :
    m.writeAttributes = m.attrs.foldl (fun m a => m.add a.typ a.val) { m with attrs := [] } := by
  obtain ⟨-, -, -, i⟩ := fold_add_fields m.attrs { m with attrs := [] }
  rw [map_attr_eta hwf] at i
  rw [writeAttributes]
  generalize List.foldl _ _ _ = x at i ⊢
  -- a struct updated with a field it already has: eta, by `cases`
  cases x; dsimp only at i; rw [i]; rfl

/-- the length field is put right by the first `Add`, if there is one -/
theorem fold_add (as : List RawAttr) (m : Msg) (lb : Bytes) (hwf : AttrsWF as) (hC : CanonicalL m lb)
    (hfit : m.length + (body as).length < 65536) :
    CanonicalL (as.foldl (fun m a => m.add a.typ a.val) m)
      (if as = [] then lb else put16 (as.foldl (fun m a => m.add a.typ a.val) m).length) := by
  induction as generalizing m lb with
  | nil => exact hC
  | cons a r ih =>
    have hsz := body_cons_length a r
    have hC1 : Canonical (m.add a.typ a.val) :=
      canonical_add hC (hwf a List.mem_cons_self).2.1 (by omega)
    have i1 := ih (m.add a.typ a.val) _ (fun x hx => hwf x (List.mem_cons_of_mem _ hx)) hC1
      (by rw [add_length (by omega)]; omega)
    rw [if_neg (List.cons_ne_nil _ _), List.foldl_cons]
    split at i1
    · subst r; exact i1
    · exact i1

theorem fold_add_canonical (as : List RawAttr) (m : Msg) (hwf : AttrsWF as) (hC : Canonical m)
    (hfit : (body (m.attrs ++ as)).length < 65536) :
    Canonical (as.foldl (fun m a => m.add a.typ a.val) m) ∧
    (as.foldl (fun m a => m.add a.typ a.val) m).attrs = m.attrs ++ as ∧
    (as.foldl (fun m a => m.add a.typ a.val) m).method = m.method ∧
    (as.foldl (fun m a => m.add a.typ a.val) m).cls = m.cls ∧
    (as.foldl (fun m a => m.add a.typ a.val) m).tid = m.tid := by
  obtain ⟨f1, f2, f3, f4⟩ := fold_add_fields as m
  refine ⟨?_, by rw [f4, map_attr_eta hwf], f1, f2, f3⟩
  have := fold_add as m _ hwf hC (by rw [hC.length, ← List.length_append, ← body_append_list]; exact hfit)
  split at this
  · subst as; exact this
  · exact this

@[simp] theorem encode_fields (m : Msg) :
    m.encode.method = m.method ∧ m.encode.cls = m.cls ∧ m.encode.tid = m.tid ∧ m.encode.attrs = m.attrs := by
  simp only [encode, writeAttributes, writeHeader_fields, fold_add_fields, and_self]

/-- with no attributes the header keeps the old `Length`: in `Encode`, `WriteLength` is only called by `Add` -/
theorem encode_canonicalL (m : Msg) (htid : m.tid.length = 12) (hwf : AttrsWF m.attrs)
    (hfit : (body m.attrs).length < 65536) :
    CanonicalL m.encode (if m.attrs = [] then put16 m.length else put16 m.encode.length) := by
  have s0 : CanonicalL { ({ m with len := 0 } : Msg).writeHeader with length := 0, attrs := [] } (put16 m.length) :=
    canonicalL_of_writeHeader (m := { m with len := 0 }) (as := []) (Nat.zero_le _) htid rfl rfl (by decide) nofun
  obtain ⟨-, -, -, ha, -⟩ := writeHeader_fields ({ m with len := 0 } : Msg)
  rw [encode]
  rw [writeAttributes_eq (by dsimp only; rw [ha]; exact hwf)]; dsimp only
  rw [ha]
  exact fold_add m.attrs _ _ hwf s0 (by rw [Nat.zero_add]; exact hfit)

theorem encode_canonical (m : Msg) (htid : m.tid.length = 12) (hwf : AttrsWF m.attrs)
    (hfit : (body m.attrs).length < 65536) (hne : m.attrs ≠ [] ∨ m.length = 0) :
    Canonical m.encode ∧ m.encode.attrs = m.attrs ∧ m.encode.method = m.method ∧ m.encode.cls = m.cls ∧
    m.encode.tid = m.tid := by
  obtain ⟨f1, f2, f3, f4⟩ := encode_fields m
  refine ⟨?_, f4, f1, f2, f3⟩
  have h := encode_canonicalL m htid hwf hfit
  split at h
  · have hl : m.length = 0 := hne.resolve_left (fun hn => hn ‹_›)
    rw [Canonical, h.length, f4, ‹m.attrs = []›]; rw [hl] at h; exact h
  · exact h

/-- `Encode` reads only the struct -/
theorem encode_eq_of_fields {m d : Msg} (h : Canonical m) (hme : d.method = m.method) (hcl : d.cls = m.cls)
    (hl : d.length = m.length) (htid : d.tid = m.tid) (hat : d.attrs = m.attrs) :
    d.encode.raw = m.raw ∧ Canonical d.encode := by
  have hne : d.attrs ≠ [] ∨ d.length = 0 := by
    rw [hat, hl, h.length]
    cases m.attrs with
    | nil => exact .inr rfl
    | cons a r => exact .inl (List.cons_ne_nil a r)
  obtain ⟨e1, e2, e3, e4, e5⟩ := encode_canonical d (htid ▸ h.tidLen) (hat ▸ h.attrs)
    (by rw [hat, ← h.length]; exact h.fits) hne
  exact ⟨SameObs.raw ⟨e1, h, e3.trans hme, e4.trans hcl, e5.trans htid, e2.trans hat⟩, e1⟩

theorem encode_of_canonical (m : Msg) (h : Canonical m) : m.encode.raw = m.raw ∧ Canonical m.encode :=
  encode_eq_of_fields h rfl rfl rfl rfl rfl

end Stun.BuildProofs
