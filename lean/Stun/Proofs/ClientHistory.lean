/-
  The code makes moves: every callback, `Start`, operation and history (`run`) of the L1 client is a sequence of `Moves`.
  The history theorems of the accounting (C10, C12 and the provenance half of C11) are what `Moves` preserve, read off
  for `run`.
-/
import Stun.Proofs.ClientCallback
import Stun.Proofs.ClientMoves
namespace Stun.ClientProofs
open Stun Stun.Client

def startsOf : List COp → List (Nat × TID × Bytes)
  | [] => []
  | .start id raw (some h) :: r => (h, id, raw) :: startsOf r
  | _ :: r => startsOf r

/-- run a history; returns the final client and, per operation, its returned error and outputs -/
def run (c : Client) : List COp → Client × List (COp × Option CErr × List COut)
  | [] => (c, [])
  | op :: r =>
    let s := c.step op
    let rest := run s.1 r
    (rest.1, (op, s.2.1, s.2.2) :: rest.2)

def allOuts (tr : List (COp × Option CErr × List COut)) : List COut := tr.flatMap (fun x => x.2.2)

theorem startsOf_cons (op : COp) (r : List COp) : startsOf (op :: r) = startsOf [op] ++ startsOf r := by
  cases op with
  | start id raw h => cases h <;> simp [startsOf]
  | _ => simp [startsOf]

theorem mem_startsOf (ops : List COp) (h : Nat) (id : TID) (raw : Bytes) :
    (h, id, raw) ∈ startsOf ops ↔ COp.start id raw (some h) ∈ ops := by
  induction ops with
  | nil => simp [startsOf]
  | cons op r ih =>
    rw [startsOf_cons, List.mem_append, ih, List.mem_cons]
    refine or_congr_left ?_
    cases op with
    | start id' raw' hd =>
      cases hd with
      | none => simp [startsOf]
      | some h' =>
        simp only [startsOf, List.mem_singleton, Prod.mk.injEq, COp.start.injEq, Option.some.injEq]
        exact ⟨fun ⟨a, b, c⟩ => ⟨b, c, a⟩, fun ⟨a, b, c⟩ => ⟨c, a, b⟩⟩
    | _ => simp [startsOf]

theorem startsOf_append (a b : List COp) : startsOf (a ++ b) = startsOf a ++ startsOf b := by
  induction a with
  | nil => rfl
  | cons op r ih => rw [List.cons_append, startsOf_cons, startsOf_cons op r, ih, List.append_assoc]

theorem allOuts_cons (x : COp × Option CErr × List COut) (tr) : allOuts (x :: tr) = x.2.2 ++ allOuts tr := by
  simp [allOuts]

theorem run_append (c : Client) (a b : List COp) :
    run c (a ++ b) = ((run (run c a).1 b).1, (run c a).2 ++ (run (run c a).1 b).2) := by
  induction a generalizing c with
  | nil => simp [run]
  | cons op r ih => simp only [List.cons_append, run, ih, List.cons_append]

theorem callback_moves {cl} (c : Client) (hi : TInv c) (id : TID) (e : CEv) :
    Moves cl c [] (c.callback id e).2 (c.callback id e).1 := by
  have o := callback_outcome c id e
  generalize c.callback id e = r at o ⊢
  cases o with
  | ignored => exact .refl c
  | fallback => exact .fallback id e
  | completed hl => exact .complete e hl
  | retransmitted tx hl _ hlt _ o =>
    cases o with
    | written f => exact (Moves.retry true hl hlt).then_frame f
    | failed w e' _ f =>
      -- the entry registered again is the one the error path finds
      have htx := next_id hi hl
      have hl1 : ((c.erase id).insert (next tx)).lookup id = some (next tx) := by
        have := lookup_insert_self (c.erase id) (next tx) (by rw [htx]; exact not_mem_erase c id)
        rwa [htx] at this
      exact ((Moves.retry w hl hlt).trans (.complete (tx := next tx) e' hl1)).then_frame f

theorem start_moves {cl} (c : Client) (id : TID) (raw : Bytes) (h : Nat) :
    Moves cl c [(h, id, raw)] (c.start id raw (some h)).2.2 (c.start id raw (some h)).1 := by
  have o := start_outcome c id raw h
  generalize c.start id raw (some h) = r at o ⊢
  cases o with
  | rejected => exact .refuse id raw h false
  | ok hk _ f => exact (Moves.register id raw h hk).then_frame f
  | failed _ w _ f => exact (Moves.refuse id raw h w).then_frame f

theorem indicate_moves {cl} (c : Client) (id : TID) (raw : Bytes) :
    Moves cl c [] (c.start id raw none).2.2 (c.start id raw none).1 := by
  rw [start_none]
  split
  · exact .refl c
  · exact (Moves.indicate raw).then_frame (frame_connWrite c raw)

theorem callbacks_moves {cl} (evs : List (TID × CEv)) (c : Client) (hi : TInv c) :
    Moves cl c [] (c.callbacks evs).2 (c.callbacks evs).1 := by
  induction evs generalizing c with
  | nil => exact .refl c
  | cons ev r ih =>
    obtain ⟨id, e⟩ := ev
    have m := callback_moves (cl := cl) c hi id e
    rw [callbacks_cons]
    exact m.trans (ih _ (m.tinv hi))

theorem deliverDecoded_moves {cl} (c : Client) (hi : TInv c) (tid : TID) (raw : Bytes) :
    Moves cl c [] (c.deliverDecoded tid raw).2 (c.deliverDecoded tid raw).1 := by
  rcases deliverDecoded_cases c tid raw with e | ⟨_, e⟩ <;> rw [e]
  · exact .refl c
  · exact Moves.frame_then (frame_agent c _) (callback_moves _ ((frame_agent c _).tinv hi) _ _)

theorem step_moves {cl} (c : Client) (hi : TInv c) (op : COp) (hk : op = .close → cl = true) :
    Moves cl c (startsOf [op]) (c.step op).2.2 (c.step op).1 := by
  cases op with
  | start id raw handler =>
    cases handler with
    | none => exact indicate_moves c id raw
    | some h => exact start_moves c id raw h
  | deliver d =>
    rcases deliver_cases c d with e | ⟨_, e⟩ <;> rw [step_deliver, e]
    · exact .refl c
    · exact deliverDecoded_moves c hi _ _
  | tick t =>
    simp only [Client.step, startsOf, tick_eq]
    exact Moves.frame_then (c' := { c with now := t, agent := (c.agent.collect t).1 }) ⟨rfl, rfl, rfl, rfl, rfl⟩
      (callbacks_moves _ _ (tinv_congr (c := c) rfl hi))
  | clock | failWrite | setRTO => exact .frame ⟨rfl, rfl, rfl, rfl, rfl⟩
  | close =>
    simp only [Client.step, startsOf]
    cases hc : c.closed with
    | true => rw [close_closed c hc]; exact .refl c
    | false =>
      rw [close_eq c hc, hk rfl]
      exact .close hc (Moves.frame_then (c' := { c with closed := true, agent := c.agent.close.1 })
        ⟨rfl, rfl, rfl, rfl, rfl⟩ (callbacks_moves _ _ (tinv_congr (c := c) rfl hi)))

theorem step_tinv (c : Client) (hi : TInv c) (op : COp) : TInv (c.step op).1 :=
  (step_moves (cl := true) c hi op fun _ => rfl).tinv hi

theorem run_moves {cl} (ops : List COp) (c : Client) (hi : TInv c) (hk : COp.close ∈ ops → cl = true) :
    Moves cl c (startsOf ops) (allOuts (run c ops).2) (run c ops).1 := by
  induction ops generalizing c with
  | nil => exact .refl c
  | cons op r ih =>
    have m := step_moves (cl := cl) c hi op fun e => hk (e ▸ List.mem_cons_self)
    rw [startsOf_cons, run, allOuts_cons]
    exact m.trans (ih _ (m.tinv hi) fun h => hk (List.mem_cons_of_mem _ h))

theorem run_tinv (ops : List COp) (c : Client) (hi : TInv c) : TInv (run c ops).1 :=
  (run_moves (cl := true) ops c hi fun _ => rfl).tinv hi

def totalCalls (h : Nat) (tr : List (COp × Option CErr × List COut)) : Nat := calls h (allOuts tr)
def startCount (h : Nat) (ops : List COp) : Nat := ((startsOf ops).filter (fun x => x.1 == h)).length

/-- in this order: the table invariant, where the entries come from, the handler invocations, the transaction writes,
    and the accounting -/
theorem run_spec (ops : List COp) (S) (c : Client) (hi : TInv c) (hf : FromStarts S c) :
    TInv (run c ops).1 ∧ FromStarts (startsOf ops ++ S) (run c ops).1 ∧
    (∀ h id e, COut.call h id e ∈ allOuts (run c ops).2 → ∃ raw, (h, id, raw) ∈ startsOf ops ++ S) ∧
    (∀ raw h, COut.write raw (some h) ∈ allOuts (run c ops).2 → ∃ id, (h, id, raw) ∈ startsOf ops ++ S) ∧
    (∀ h, totalCalls h (run c ops).2 + pend h (run c ops).1 ≤ pend h c + startCount h ops) := by
  have m := run_moves (cl := true) ops c hi fun _ => rfl
  obtain ⟨p1, p2, p3⟩ := m.prov (startsOf ops ++ S) hi (fun x hx => List.mem_append_left _ hx)
    (fromStarts_mono hf fun x hx => List.mem_append_right _ hx)
  refine ⟨m.tinv hi, p1, p2, p3, fun h => ?_⟩
  obtain ⟨n, hn, e⟩ := m.acct h hi
  show calls h _ + _ ≤ _ + cntS h _
  omega

theorem run_eq (ops : List COp) (h : Nat) (hno : startCount h ops = 0) (c : Client) (hi : TInv c) :
    totalCalls h (run c ops).2 + pend h (run c ops).1 = pend h c := by
  obtain ⟨n, hn, e⟩ := (run_moves (cl := true) ops c hi fun _ => rfl).acct h hi
  have : cntS h (startsOf ops) = 0 := hno
  show calls h _ + _ = _
  omega

end Stun.ClientProofs
