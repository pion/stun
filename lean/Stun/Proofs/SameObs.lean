/-
  Every setter, and so `Build`, acts only on what `SameObs` keeps. `SameObs` is a relation between canonical messages
  (it carries `Canonical` of both), which is why `Raw` and `Length` need not be among its fields.
-/
import Stun.Proofs.Canonical
namespace Stun.BuildProofs
open Stun Stun.Msg Stun.Spec

/-- two message objects that agree on everything observable (but may differ in capacity and in the stale bytes
    beyond the visible length) -/
structure SameObs (m1 m2 : Msg) : Prop where
  c1 : Canonical m1
  c2 : Canonical m2
  method : m1.method = m2.method
  cls : m1.cls = m2.cls
  tid : m1.tid = m2.tid
  attrs : m1.attrs = m2.attrs

theorem SameObs.length {m1 m2 : Msg} (h : SameObs m1 m2) : m1.length = m2.length := by
  rw [h.c1.length, h.c2.length, h.attrs]

theorem SameObs.headerL {m1 m2 : Msg} (h : SameObs m1 m2) (lb : Bytes) :
    BuildProofs.headerL m1 lb = BuildProofs.headerL m2 lb :=
  headerL_congr h.method h.cls h.tid lb

theorem SameObs.raw {m1 m2 : Msg} (h : SameObs m1 m2) : m1.raw = m2.raw := by
  rw [h.c1.raw, h.c2.raw, h.headerL, h.attrs, h.length]

theorem adds_congr (s : Setter) (m1 m2 : Msg) (h : m1.tid = m2.tid) : Setter.adds s m1 = Setter.adds s m2 := by
  cases s with
  | xorAddr a ip p => simp only [Setter.adds, h]
  | _ => rfl

theorem fits_congr (s : Setter) {m1 m2 : Msg} (h : SameObs m1 m2) : SetterFits s m1 = SetterFits s m2 := by
  -- `SetterFits` reads the message only through `length` and `Setter.adds`; the two rewrites go under its `match`
  unfold SetterFits
  simp only [h.length, adds_congr _ m1 m2 h.tid]

theorem value_sameObs (mac : Bytes → Bytes → Bytes) {s : Setter} {m1 m2 : Msg} (h : SameObs m1 m2)
    (k1 : Canonical (s.addTo mac m1).1) (k2 : Canonical (s.addTo mac m2).1) (hs : Setter.IsValue s := by trivial) :
    (s.addTo mac m1).2 = (s.addTo mac m2).2 ∧ SameObs (s.addTo mac m1).1 (s.addTo mac m2).1 := by
  rw [addTo_value mac s m1] at k1 ⊢
  rw [addTo_value mac s m2, ← adds_congr s m1 m2 h.tid] at k2 ⊢
  cases ha : Setter.adds s m1 with
  | none => exact ⟨rfl, h⟩
  | some tv =>
    rw [ha] at k1 k2
    -- the matches reduced before `rfl`: the kernel would compare the two pairs first, unfolding both `add`s
    dsimp only at k1 k2 ⊢
    exact ⟨rfl, { c1 := k1, c2 := k2, method := by simp [h.method], cls := by simp [h.cls], tid := by simp [h.tid],
                  attrs := by simp [h.attrs] }⟩

theorem setter_sameObs (mac : Bytes → Bytes → Bytes) (hmac : ∀ k x, (mac k x).length = 20)
    (s : Setter) (m1 m2 : Msg) (h : SameObs m1 m2) (hf : SetterFits s m1) :
    (s.addTo mac m1).2 = (s.addTo mac m2).2 ∧ SameObs (s.addTo mac m1).1 (s.addTo mac m2).1 := by
  have hf2 : SetterFits s m2 := fits_congr s h ▸ hf
  have k1 := setter_canonical mac hmac s m1 h.c1 hf
  have k2 := setter_canonical mac hmac s m2 h.c2 hf2
  cases s with
  | msgType me c =>
    exact ⟨rfl, { c1 := k1, c2 := k2, method := by simp [addTo_msgType], cls := by simp [addTo_msgType],
                  tid := by simp [addTo_msgType, h.tid], attrs := by simp [addTo_msgType, h.attrs] }⟩
  | tid id => exact ⟨rfl, k1, k2, h.method, h.cls, rfl, h.attrs⟩
  | integrity key =>
    simp only [addTo_integrity] at k1 k2 ⊢
    by_cases hfp : m1.attrs.any (fun a => a.typ == attrFingerprint) = true
    · rw [integrityAddTo, integrityAddTo, if_pos hfp, if_pos (h.attrs ▸ hfp)]
      exact ⟨rfl, h⟩
    · -- both values are taken over the same bytes (`h.headerL`, `h.length`, `h.attrs`); the rest is `add_fields`
      obtain ⟨_, -, -, e1⟩ := integrityAddTo_eq mac key m1 h.c1 (Bool.eq_false_iff.2 hfp) hf
      obtain ⟨_, -, -, e2⟩ := integrityAddTo_eq mac key m2 h.c2 (h.attrs ▸ Bool.eq_false_iff.2 hfp) hf2
      rw [e1] at k1 ⊢; rw [e2] at k2 ⊢
      exact ⟨rfl, { c1 := k1, c2 := k2, method := by simp [h.method], cls := by simp [h.cls], tid := by simp [h.tid],
                    attrs := by simp [h.attrs, h.headerL, h.length] }⟩
  | fingerprint =>
    obtain ⟨_, -, -, e1⟩ := fingerprintAddTo_eq m1 h.c1 hf
    obtain ⟨_, -, -, e2⟩ := fingerprintAddTo_eq m2 h.c2 hf2
    simp only [addTo_fingerprint] at k1 k2 ⊢
    rw [e1] at k1 ⊢; rw [e2] at k2 ⊢
    exact ⟨rfl, { c1 := k1, c2 := k2, method := by simp [h.method], cls := by simp [h.cls], tid := by simp [h.tid],
                  attrs := by simp [h.attrs, h.headerL, h.length] }⟩
  | _ => exact value_sameObs mac h k1 k2

theorem applySetters_sameObs (mac : Bytes → Bytes → Bytes) (hmac : ∀ k x, (mac k x).length = 20)
    (ss : List Setter) (m1 m2 : Msg) (h : SameObs m1 m2) (hf : AllFit mac ss m1) :
    (applySetters mac ss m1).2 = (applySetters mac ss m2).2 ∧
    SameObs (applySetters mac ss m1).1 (applySetters mac ss m2).1 := by
  induction ss generalizing m1 m2 with
  | nil => exact ⟨rfl, h⟩
  | cons s r ih =>
    obtain ⟨e, so⟩ := setter_sameObs mac hmac s m1 m2 h hf.1
    cases he : (s.addTo mac m1).2 with
    | some err => rw [applySetters_cons_err r he, applySetters_cons_err r (e ▸ he)]; exact ⟨rfl, h⟩
    | none => rw [applySetters_cons_ok r he, applySetters_cons_ok r (e ▸ he)]; exact ih _ _ so (hf.2 he)

end Stun.BuildProofs
