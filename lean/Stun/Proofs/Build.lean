/-
  What the buffer operations of `Msg` behind `WriteHeader` and `Add` do: a block algebra of `writeAt` on lists, then for
  each of them its struct fields (unconditional `simp` equations) and, for those that can grow the buffer, its visible
  length, its capacity and its visible bytes; `writeType` and `writeLength` on a message that has its header are one
  `writeAt`.
  Capacity obeys one law: from `len ≤ cap` an operation ends with `cap' = max cap len'` — Go's `grow` moves `Raw`
  exactly when the new length exceeds the capacity.
-/
import Stun.Model.Integrity
import Stun.Proofs.Padding
namespace Stun.BuildProofs
open Stun Stun.Msg

theorem writeAt_length {mem : Bytes} {pos : Nat} {d : Bytes} (h : pos + d.length ≤ mem.length) :
    (writeAt mem pos d).length = mem.length := by
  rw [writeAt, List.length_append, List.length_append, List.length_take_of_le (Nat.le_of_add_right_le h),
    List.length_drop, Nat.add_sub_cancel' h]

theorem writeAt_getElem? (mem : Bytes) (pos : Nat) (d : Bytes) (h : pos + d.length ≤ mem.length) (i : Nat) :
    (writeAt mem pos d)[i]? = if i < pos then mem[i]? else if i < pos + d.length then d[i - pos]? else mem[i]? := by
  rw [writeAt, List.append_assoc, List.getElem?_append, List.length_take_of_le (Nat.le_of_add_right_le h)]
  by_cases h1 : i < pos
  · rw [if_pos h1, if_pos h1]; exact List.getElem?_take_of_lt h1
  · rw [if_neg h1, if_neg h1, List.getElem?_append]
    -- the test of `getElem?_append`, `i - pos < d.length`, is the statement's `i < pos + d.length`
    simp only [Nat.sub_lt_iff_lt_add' (Nat.le_of_not_lt h1)]
    split
    · rfl
    next h2 => rw [List.getElem?_drop, Nat.sub_sub, Nat.add_sub_cancel' (Nat.le_of_not_lt h2)]

theorem writeAt_mid {a b c d : Bytes} {pos : Nat} (ha : a.length = pos) (hb : b.length = d.length) :
    writeAt (a ++ b ++ c) pos d = a ++ d ++ c := by
  subst ha
  rw [writeAt, List.append_assoc a b c, List.take_left, ← List.append_assoc a b c, ← hb, ← List.length_append,
    List.drop_left]

theorem writeAt_append {a c d : Bytes} {pos : Nat} (h : pos + d.length ≤ a.length) :
    writeAt (a ++ c) pos d = writeAt a pos d ++ c := by
  simp only [writeAt, List.append_assoc]
  rw [List.take_append_of_le_length (by omega), List.drop_append_of_le_length h]

theorem writeAt_writeAt {mem d₁ d₂ : Bytes} {p₁ p₂ : Nat} (hp : p₂ = p₁ + d₁.length) (h : p₁ ≤ mem.length) :
    writeAt (writeAt mem p₁ d₁) p₂ d₂ = writeAt mem p₁ (d₁ ++ d₂) := by
  subst hp
  have hl : (mem.take p₁ ++ d₁).length = p₁ + d₁.length := by rw [List.length_append, List.length_take_of_le h]
  rw [writeAt, writeAt, writeAt]
  -- what the outer write keeps of the inner result: before it `mem.take p₁ ++ d₁`, after it a suffix of `mem`
  rw [← hl, List.take_left, List.drop_length_add_append, List.drop_drop]
  rw [hl, List.length_append, Nat.add_assoc, List.append_assoc _ d₁ d₂]

theorem writeAt_writeAt_same (l : Bytes) (pos : Nat) (d1 d2 : Bytes) (hl : d1.length = d2.length)
    (h : pos + d1.length ≤ l.length) : writeAt (writeAt l pos d1) pos d2 = writeAt l pos d2 := by
  have hp : (l.take pos).length = pos := List.length_take_of_le (by omega)
  show writeAt (l.take pos ++ d1 ++ l.drop (pos + d1.length)) pos d2 = _
  rw [writeAt_mid hp hl, hl]; rfl

theorem writeAt_take {mem d : Bytes} {pos : Nat} (h : pos ≤ mem.length) :
    (writeAt mem pos d).take (pos + d.length) = mem.take pos ++ d := by
  have hl : (mem.take pos ++ d).length = pos + d.length := by rw [List.length_append, List.length_take_of_le h]
  rw [writeAt, ← hl, List.take_left]

theorem writeAt_zero (l d : Bytes) : writeAt l 0 d = d ++ l.drop d.length := by
  rw [writeAt, List.take_zero, List.nil_append, Nat.zero_add]

theorem max_le_max_right {a b : Nat} (h : a ≤ b) (c : Nat) : max a c ≤ max b c :=
  Nat.max_le_of_le_of_le (Nat.le_trans h (Nat.le_max_left ..)) (Nat.le_max_right ..)

theorem le_max_add (a b c : Nat) : a ≤ max c (a + b) := Nat.le_trans (Nat.le_add_right ..) (Nat.le_max_right ..)

theorem put16_len (n : Nat) : (put16 n).length = 2 := put16_length n

theorem zeros_length (n : Nat) : (zeros n).length = n := List.length_replicate ..

theorem raw_length {m : Msg} (h : m.len ≤ m.mem.length) : m.raw.length = m.len := List.length_take_of_le h

theorem grow_noop {m : Msg} {n : Nat} (h : n ≤ m.len) : m.grow n = m := if_pos h

@[simp] theorem grow_fields (m : Msg) (n : Nat) :
    (m.grow n).method = m.method ∧ (m.grow n).cls = m.cls ∧ (m.grow n).tid = m.tid ∧
    (m.grow n).attrs = m.attrs ∧ (m.grow n).length = m.length := by
  unfold grow; split
  · exact ⟨rfl, rfl, rfl, rfl, rfl⟩
  · split <;> exact ⟨rfl, rfl, rfl, rfl, rfl⟩

theorem grow_len (m : Msg) (n : Nat) : (m.grow n).len = max m.len n := by
  by_cases h1 : n ≤ m.len
  · rw [grow_noop h1, Nat.max_eq_left h1]
  · rw [Nat.max_eq_right (Nat.le_of_not_ge h1), grow, if_neg h1]
    split <;> rfl

theorem grow_cap {m : Msg} (h : m.len ≤ m.mem.length) (n : Nat) :
    (m.grow n).mem.length = max m.mem.length n := by
  by_cases h1 : n ≤ m.len
  · rw [grow_noop h1, Nat.max_eq_left (Nat.le_trans h1 h)]
  · rw [grow, if_neg h1]
    by_cases h2 : n ≤ m.mem.length
    · rw [if_pos h2, Nat.max_eq_left h2]
    · rw [if_neg h2, Nat.max_eq_right (Nat.le_of_not_ge h2)]
      dsimp only
      rw [List.length_append, List.length_take_of_le h, zeros_length, Nat.add_sub_cancel' (Nat.le_of_not_ge h1)]

theorem grow_take {m : Msg} (h : m.len ≤ m.mem.length) {k : Nat} (hk : k ≤ m.len) (n : Nat) :
    (m.grow n).mem.take k = m.mem.take k := by
  by_cases h1 : n ≤ m.len
  · rw [grow_noop h1]
  · rw [grow, if_neg h1]
    split
    · rfl
    · dsimp only
      rw [List.take_append_of_le_length (by rw [List.length_take_of_le h]; exact hk), List.take_take, Nat.min_eq_left hk]

theorem grow_raw_drop (m : Msg) (n : Nat) : (m.grow n).raw.drop n = m.raw.drop n := by
  by_cases hn : n ≤ m.len
  · rw [grow_noop hn]
  · rw [List.drop_eq_nil_of_le, List.drop_eq_nil_of_le]
    · rw [raw, List.length_take]; exact Nat.le_trans (Nat.min_le_left ..) (Nat.le_of_not_ge hn)
    · rw [raw, List.length_take, grow_len, Nat.max_eq_right (Nat.le_of_not_ge hn)]; exact Nat.min_le_left ..

/-- both halves of `Add` have this shape: whatever `grow` exposed is overwritten, so the spare capacity never shows -/
theorem grow_writeAt_take {m : Msg} (h : m.len ≤ m.mem.length) {pos n : Nat} {d : Bytes} (hpos : pos ≤ m.len)
    (hn : n = pos + d.length) : (writeAt (m.grow n).mem pos d).take n = m.raw.take pos ++ d := by
  subst hn
  rw [writeAt_take (by rw [grow_cap h]; exact le_max_add ..), grow_take h hpos, raw, List.take_take,
    Nat.min_eq_left hpos]

theorem grow_writeAt_length {m : Msg} (h : m.len ≤ m.mem.length) {pos n : Nat} {d : Bytes} (hn : pos + d.length ≤ n) :
    (writeAt (m.grow n).mem pos d).length = max m.mem.length n := by
  rw [writeAt_length (by rw [grow_cap h]; exact Nat.le_trans hn (Nat.le_max_right ..)), grow_cap h]

theorem raw_writeAt {m : Msg} {pos : Nat} {d : Bytes} (h : m.len ≤ m.mem.length) (h1 : pos + d.length ≤ m.len) :
    ({ m with mem := writeAt m.mem pos d } : Msg).raw = writeAt m.raw pos d := by
  have hm : m.mem = m.raw ++ m.spare := (List.take_append_drop m.len m.mem).symm
  have hl := raw_length h
  show (writeAt m.mem pos d).take m.len = _
  rw [hm, writeAt_append (by omega), List.take_left' (by rw [writeAt_length (by omega), hl])]

theorem writeType_eq {m : Msg} (h : 2 ≤ m.len) :
    m.writeType = { m with mem := writeAt m.mem 0 (put16 (typeValue m.method m.cls)) } := by
  rw [writeType, grow_noop h]

theorem writeLength_eq {m : Msg} (h : 4 ≤ m.len) :
    m.writeLength = { m with mem := writeAt m.mem 2 (put16 m.length) } := by
  rw [writeLength, grow_noop h]

@[simp] theorem writeLength_fields (m : Msg) :
    m.writeLength.method = m.method ∧ m.writeLength.cls = m.cls ∧ m.writeLength.tid = m.tid ∧
    m.writeLength.attrs = m.attrs ∧ m.writeLength.length = m.length := by
  simp [writeLength]

@[simp] theorem writeType_fields (m : Msg) :
    m.writeType.method = m.method ∧ m.writeType.cls = m.cls ∧ m.writeType.tid = m.tid ∧
    m.writeType.attrs = m.attrs ∧ m.writeType.length = m.length := by
  simp [writeType]

@[simp] theorem setType_fields (m : Msg) (me c : Nat) :
    (m.setType me c).method = me ∧ (m.setType me c).cls = c ∧ (m.setType me c).tid = m.tid ∧
    (m.setType me c).attrs = m.attrs ∧ (m.setType me c).length = m.length := by
  simp [setType]

theorem sumIntoSpare_eq (m : Msg) (d : Bytes) : m.sumIntoSpare d =
    { m with mem := if m.len + d.length ≤ m.mem.length then writeAt m.mem m.len d else m.mem } := by
  unfold sumIntoSpare; split <;> rfl

theorem sumIntoSpare_cap (m : Msg) (d : Bytes) : (m.sumIntoSpare d).mem.length = m.mem.length := by
  unfold sumIntoSpare; split
  · exact writeAt_length ‹_›
  · rfl

theorem sumIntoSpare_take (m : Msg) (d : Bytes) : (m.sumIntoSpare d).mem.take m.len = m.mem.take m.len := by
  unfold sumIntoSpare; split
  · dsimp only
    rw [writeAt, List.append_assoc, List.take_left' (by rw [List.length_take]; omega)]
  · rfl

/-- the 20 header bytes with `lb` in the length field -/
def headerL (m : Msg) (lb : Bytes) : Bytes :=
  put16 (typeValue m.method m.cls) ++ lb ++ put32 magicCookie ++ m.tid

theorem headerL_length (m : Msg) (lb : Bytes) (h1 : m.tid.length = 12) (h2 : lb.length = 2) :
    (headerL m lb).length = 20 := by
  simp only [headerL, List.length_append, h1, h2]; rfl

theorem headerL_congr {m n : Msg} (h1 : m.method = n.method) (h2 : m.cls = n.cls) (h3 : m.tid = n.tid) (lb : Bytes) :
    headerL m lb = headerL n lb := by
  simp only [headerL, h1, h2, h3]

theorem be32_headerL (m : Msg) (n : Nat) (r : Bytes) : be32 ((headerL m (put16 n) ++ r).drop 4) = magicCookie := by
  rw [show (headerL m (put16 n) ++ r).drop 4 = put32 magicCookie ++ (m.tid ++ r) by simp [headerL, put16]]
  exact be32_put32_append _ (by decide) _

theorem be16_headerL (m : Msg) {n : Nat} (h : n < 65536) (r : Bytes) : be16 ((headerL m (put16 n) ++ r).drop 2) = n := by
  rw [show (headerL m (put16 n) ++ r).drop 2 = put16 n ++ (put32 magicCookie ++ (m.tid ++ r)) by simp [headerL, put16]]
  exact be16_put16_append _ h _

theorem writeHeader_eq (m : Msg) :
    m.writeHeader = { m.grow 20 with mem := writeAt (m.grow 20).mem 0 (headerL m (put16 m.length)) } := by
  obtain ⟨f1, f2, f3, -, f5⟩ := grow_fields m 20
  have hl : 20 ≤ (m.grow 20).len := by rw [grow_len]; exact Nat.le_max_right ..
  -- `unfold`, not `rw [writeHeader]`: the equation lemma has the `let`s substituted, and every struct update in it
  -- mentions its source seven times
  unfold writeHeader
  -- backwards, so that only `m.grow 20` is spoken of and can become a variable
  rw [headerL, ← f1, ← f2, ← f3, ← f5, show messageHeaderSize = 20 from rfl]
  generalize m.grow 20 = g at hl
  have e : g.writeType.writeLength =
      { g with mem := writeAt g.mem 0 (put16 (typeValue g.method g.cls) ++ put16 g.length) } := by
    -- `by exact`: the message `writeLength_eq` speaks of is to be read off the goal, not off `hl`
    rw [writeType_eq (Nat.le_trans (by decide) hl), writeLength_eq (by exact Nat.le_trans (by decide) hl)]
    dsimp only
    rw [writeAt_writeAt (by rfl) (Nat.zero_le _)]
  dsimp only
  rw [e]
  dsimp only
  rw [writeAt_writeAt (by rfl) (Nat.zero_le _), writeAt_writeAt (by rfl) (Nat.zero_le _)]

@[simp] theorem writeHeader_fields (m : Msg) :
    m.writeHeader.method = m.method ∧ m.writeHeader.cls = m.cls ∧ m.writeHeader.tid = m.tid ∧
    m.writeHeader.attrs = m.attrs ∧ m.writeHeader.length = m.length := by
  rw [writeHeader_eq]; exact grow_fields m 20

theorem writeHeader_len (m : Msg) : m.writeHeader.len = max m.len 20 := by
  rw [writeHeader_eq]; exact grow_len m 20

theorem writeHeader_cap {m : Msg} (h : m.len ≤ m.mem.length) (ht : m.tid.length = 12) :
    m.writeHeader.mem.length = max m.mem.length 20 := by
  rw [writeHeader_eq]
  dsimp only
  rw [writeAt_length (by rw [headerL_length m _ ht rfl, grow_cap h]; exact Nat.le_max_right ..), grow_cap h]

theorem writeHeader_raw {m : Msg} (h : m.len ≤ m.mem.length) (ht : m.tid.length = 12) :
    m.writeHeader.raw = headerL m (put16 m.length) ++ m.raw.drop 20 := by
  have hh := headerL_length m (put16 m.length) ht rfl
  have hcap : (m.grow 20).len ≤ (m.grow 20).mem.length := by
    rw [grow_len, grow_cap h]; exact max_le_max_right h 20
  have h20 : 0 + (headerL m (put16 m.length)).length ≤ (m.grow 20).len := by
    rw [hh, grow_len]; exact Nat.le_max_right ..
  rw [writeHeader_eq, raw_writeAt hcap h20, writeAt_zero, hh, grow_raw_drop]

theorem tlvHead_length (t n : Nat) (v : Bytes) : (put16 t ++ put16 n ++ v).length = 4 + v.length := by
  simp only [List.length_append]; rfl

@[simp] theorem addHead_fields (m : Msg) (t : Nat) (v : Bytes) :
    (m.addHead t v).method = m.method ∧ (m.addHead t v).cls = m.cls ∧ (m.addHead t v).tid = m.tid ∧
    (m.addHead t v).attrs = m.attrs ∧ (m.addHead t v).length = w32 (m.length + (4 + v.length)) := by
  unfold addHead; simp [attributeHeaderSize]

theorem addHead_len (m : Msg) (t : Nat) (v : Bytes) : (m.addHead t v).len = 20 + m.length + (4 + v.length) := rfl

theorem addHead_mem {m : Msg} (h : m.len ≤ m.mem.length) (t : Nat) (v : Bytes) :
    (m.addHead t v).mem = writeAt (m.grow (20 + m.length + (4 + v.length))).mem (20 + m.length)
      (put16 t ++ put16 (v.length % 65536) ++ v) := by
  have hc : 20 + m.length ≤ (m.grow (20 + m.length + (4 + v.length))).mem.length := by
    rw [grow_cap h]; exact le_max_add ..
  rw [← writeAt_writeAt rfl hc, ← writeAt_writeAt rfl hc]
  rfl

theorem addHead_raw {m : Msg} (h : m.len ≤ m.mem.length) (h1 : 20 + m.length ≤ m.len) (t : Nat) (v : Bytes) :
    (m.addHead t v).raw = m.raw.take (20 + m.length) ++ (put16 t ++ put16 (v.length % 65536) ++ v) := by
  rw [raw, addHead_mem h, addHead_len, grow_writeAt_take h h1 (by rw [tlvHead_length])]

theorem addHead_cap {m : Msg} (h : m.len ≤ m.mem.length) (t : Nat) (v : Bytes) :
    (m.addHead t v).mem.length = max m.mem.length (20 + m.length + (4 + v.length)) := by
  rw [addHead_mem h, grow_writeAt_length h (by rw [tlvHead_length]; omega)]

theorem addPad_eq (m : Msg) (v : Bytes) (last : Nat) (g : Msg) (hg : m.grow (last + Spec.pad4 v.length) = g) :
    m.addPad v last = { g with
      mem := writeAt g.mem last (zeros (Spec.pad4 v.length)), len := last + Spec.pad4 v.length,
      length := w32 (g.length + Spec.pad4 v.length) } := by
  subst hg; simp only [addPad, DecodeProofs.npvl_eq, Nat.add_sub_cancel_left, Nat.add_sub_cancel]

@[simp] theorem addPad_fields (m : Msg) (v : Bytes) (last : Nat) :
    (m.addPad v last).method = m.method ∧ (m.addPad v last).cls = m.cls ∧ (m.addPad v last).tid = m.tid ∧
    (m.addPad v last).attrs = m.attrs ∧ (m.addPad v last).length = w32 (m.length + Spec.pad4 v.length) := by
  rw [addPad_eq m v last _ rfl]; simp

theorem addPad_len (m : Msg) (v : Bytes) (last : Nat) : (m.addPad v last).len = last + Spec.pad4 v.length := by
  rw [addPad_eq m v last _ rfl]

theorem addPad_raw {m : Msg} (h : m.len ≤ m.mem.length) (v : Bytes) {last : Nat} (hl : last ≤ m.len) :
    (m.addPad v last).raw = m.raw.take last ++ zeros (Spec.pad4 v.length) := by
  rw [addPad_eq m v last _ rfl, raw]; dsimp only
  rw [grow_writeAt_take h hl (by rw [zeros_length])]

theorem addPad_cap {m : Msg} (h : m.len ≤ m.mem.length) (v : Bytes) (last : Nat) :
    (m.addPad v last).mem.length = max m.mem.length (last + Spec.pad4 v.length) := by
  rw [addPad_eq m v last _ rfl]; dsimp only
  rw [grow_writeAt_length h (by rw [zeros_length]; omega)]

theorem addPad_noop {m : Msg} {v : Bytes} (hp : Spec.pad4 v.length = 0) (hl : m.length < 4294967296) :
    m.addPad v m.len = m := by
  have hw : writeAt m.mem m.len (zeros 0) = m.mem := by
    rw [writeAt, zeros, List.replicate_zero, List.append_nil, List.length_nil, Nat.add_zero, List.take_append_drop]
  rw [addPad_eq m v m.len m (grow_noop (by omega)), hp, hw, Nat.add_zero, Nat.add_zero, w32,
    Nat.mod_eq_of_lt hl]

theorem add_eq (m : Msg) (t : Nat) (v : Bytes) :
    m.add t v = ({ (m.addHead t v).addPad v (20 + m.length + (4 + v.length)) with
      attrs := m.attrs ++ [(⟨t, v.length % 65536, v⟩ : RawAttr)] }).writeLength := by
  obtain ⟨-, -, -, ha, hl⟩ := addHead_fields m t v
  obtain ⟨-, -, -, ha', -⟩ := addPad_fields (m.addHead t v) v (20 + m.length + (4 + v.length))
  have hpad : (if (v.length % 65536) % padding ≠ 0 then (m.addHead t v).addPad v (20 + m.length + (4 + v.length))
      else m.addHead t v) = (m.addHead t v).addPad v (20 + m.length + (4 + v.length)) := by
    split
    · rfl
    · exact (addPad_noop (DecodeProofs.pad4_eq_zero ‹_›) (hl ▸ Nat.mod_lt _ (by decide))).symm
  -- backwards: the list appended to is that of the padded message, which is the `if` in the body of `add`
  rw [← ha, ← ha', ← hpad]
  rfl

@[simp] theorem add_fields (m : Msg) (t : Nat) (v : Bytes) :
    (m.add t v).method = m.method ∧ (m.add t v).cls = m.cls ∧ (m.add t v).tid = m.tid ∧
    (m.add t v).attrs = m.attrs ++ [⟨t, v.length % 65536, v⟩] := by
  rw [add_eq]; simp

theorem four_le_addPad_len (m : Msg) (t : Nat) (v : Bytes) :
    4 ≤ ((m.addHead t v).addPad v (20 + m.length + (4 + v.length))).len := by rw [addPad_len]; omega

theorem add_len (m : Msg) (t : Nat) (v : Bytes) :
    (m.add t v).len = 20 + m.length + (4 + v.length) + Spec.pad4 v.length := by
  rw [add_eq, writeLength, grow_len]; dsimp only; rw [addPad_len]; exact Nat.max_eq_left (by omega)

theorem add_length {m : Msg} {v : Bytes} (hfit : m.length + 4 + v.length + 3 < 4294967296) (t : Nat) :
    (m.add t v).length = m.length + 4 + v.length + Spec.pad4 v.length := by
  have hp := DecodeProofs.pad4_lt v.length
  have h1 : m.length + (4 + v.length) < 4294967296 := by omega
  obtain ⟨-, -, -, -, e1⟩ := addHead_fields m t v
  obtain ⟨-, -, -, -, e2⟩ := addPad_fields (m.addHead t v) v (20 + m.length + (4 + v.length))
  rw [add_eq]; simp only [writeLength_fields]
  -- the inner `%` first, so that neither bound mentions a `%`
  rw [e2, e1, w32, w32, Nat.mod_eq_of_lt h1, Nat.mod_eq_of_lt (by omega), ← Nat.add_assoc]

theorem addHead_addPad_cap {m : Msg} (h : m.len ≤ m.mem.length) (t : Nat) (v : Bytes) :
    ((m.addHead t v).addPad v (20 + m.length + (4 + v.length))).mem.length =
      max m.mem.length (20 + m.length + (4 + v.length) + Spec.pad4 v.length) := by
  have hc := addHead_cap h t v
  rw [addPad_cap (by rw [hc]; exact Nat.le_max_right ..), hc, Nat.max_assoc, Nat.max_eq_right (Nat.le_add_right ..)]

theorem addHead_addPad_raw {m : Msg} (h : m.len ≤ m.mem.length) (h1 : 20 + m.length ≤ m.len) (t : Nat) (v : Bytes) :
    ((m.addHead t v).addPad v (20 + m.length + (4 + v.length))).raw = m.raw.take (20 + m.length) ++
      (put16 t ++ put16 (v.length % 65536) ++ v ++ zeros (Spec.pad4 v.length)) := by
  have hc : (m.addHead t v).len ≤ (m.addHead t v).mem.length := by rw [addHead_cap h]; exact Nat.le_max_right ..
  rw [addPad_raw hc v (Nat.le_of_eq (addHead_len m t v).symm), ← addHead_len m t v,
    List.take_of_length_le (Nat.le_of_eq (raw_length hc)), addHead_raw h h1, List.append_assoc]

theorem add_cap {m : Msg} (h : m.len ≤ m.mem.length) (t : Nat) (v : Bytes) :
    (m.add t v).mem.length = max m.mem.length (m.add t v).len := by
  rw [add_len, ← addHead_addPad_cap h t v, add_eq, writeLength_eq (by exact four_le_addPad_len m t v)]
  exact writeAt_length (by rw [addHead_addPad_cap h, put16_length]; omega)

theorem add_raw {m : Msg} (h : m.len ≤ m.mem.length) (h1 : 20 + m.length ≤ m.len) {v : Bytes}
    (hfit : m.length + 4 + v.length + 3 < 4294967296) (t : Nat) :
    (m.add t v).raw = writeAt (m.raw.take (20 + m.length) ++
      (put16 t ++ put16 (v.length % 65536) ++ v ++ zeros (Spec.pad4 v.length))) 2
      (put16 (m.length + 4 + v.length + Spec.pad4 v.length)) := by
  rw [← add_length hfit t, ← addHead_addPad_raw h h1, add_eq, writeLength_eq (by exact four_le_addPad_len m t v)]
  exact raw_writeAt (by rw [addPad_len, addHead_addPad_cap h]; exact Nat.le_max_right ..) (four_le_addPad_len m t v)

theorem attrSliceEqual_refl (as : List RawAttr) : attrSliceEqual as as = true := by
  unfold attrSliceEqual
  rw [List.all_eq_true]
  intro x hx
  rw [List.any_eq_true]
  exact ⟨x, hx, by simp [attrEq]⟩

theorem equal_of_fields (m n : Msg) (h1 : m.method = n.method) (h2 : m.cls = n.cls) (h3 : m.tid = n.tid)
    (h4 : m.length = n.length) (h5 : m.attrs = n.attrs) : m.equal n = true := by
  unfold Msg.equal
  simp [h1, h2, h3, h4, h5, attrSliceEqual_refl]

theorem writeHeader_spec (m : Msg) (hcap : m.len ≤ m.mem.length) (htid : m.tid.length = 12) :
    let m' := m.writeHeader
    m'.raw = put16 (typeValue m.method m.cls) ++ put16 m.length ++ put32 magicCookie ++ m.tid ++ m.raw.drop 20 ∧
    m'.len = max m.len 20 ∧ m'.len ≤ m'.mem.length ∧ m'.length = m.length ∧ m'.attrs = m.attrs ∧
    m'.method = m.method ∧ m'.cls = m.cls ∧ m'.tid = m.tid := by
  exact ⟨writeHeader_raw hcap htid, writeHeader_len m,
    by rw [writeHeader_len, writeHeader_cap hcap htid]; exact max_le_max_right hcap 20,
    by simp, by simp, by simp, by simp, by simp⟩

theorem add_spec (m : Msg) (t : Nat) (v : Bytes) (h1 : 20 + m.length ≤ m.len) (h2 : m.len ≤ m.mem.length)
    (hfit : m.length + 4 + v.length + 3 < 4294967296) :
    let p := (4 - v.length % 4) % 4
    let newLen := m.length + 4 + v.length + p
    let m' := m.add t v
    m'.raw = writeAt (m.raw.take (20 + m.length) ++ put16 t ++ put16 (v.length % 65536) ++ v ++ zeros p) 2 (put16 newLen)
    ∧ m'.len = 20 + newLen ∧ m'.len ≤ m'.mem.length ∧ m'.length = newLen ∧
    m'.attrs = m.attrs ++ [⟨t, v.length % 65536, v⟩] ∧ m'.method = m.method ∧ m'.cls = m.cls ∧ m'.tid = m.tid := by
  refine ⟨?_, by rw [add_len]; show _ = 20 + (m.length + 4 + v.length + Spec.pad4 v.length); omega,
    by rw [add_cap h2]; exact Nat.le_max_right .., add_length hfit t, by simp, by simp, by simp, by simp⟩
  rw [add_raw h2 h1 hfit]; simp only [List.append_assoc]; rfl

end Stun.BuildProofs
