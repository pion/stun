/-
  Tie theorems for the straight-line functions the extractor translates statement by statement from the Go sources
  (message.go `MessageType.Value`/`ReadValue`, attributes.go `nearestPaddedValueLength`/`compatAttrType`,
  client.go `clientTransaction.nextTimeout`): the regenerated definition is the one the theorems were proved about.
  For the first four, `<f>_untranslated = 1` says that the translator understood every statement of `<f>` (it emits
  `unsupported "…"`, which is 0, otherwise); `nextTimeout` is a single expression and has no such flag.
-/
import Stun.Gen.Generated
import Stun.Model.Decode
import Stun.Model.Client
namespace Stun.Tie
open Stun

theorem typeValue_translated : Gen.typeValue_untranslated = 1 ∧ Gen.readValue_untranslated = 1 ∧
    Gen.nearestPaddedValueLength_untranslated = 1 ∧ Gen.compatAttrType_untranslated = 1 := by decide

theorem typeValue (m c : Nat) : Gen.typeValue m c = Stun.typeValue m c := by
  -- the translation truncates the inner sum `a + (b << 1)` as well: nothing under the truncation of the whole sum
  simp only [Gen.typeValue, Stun.typeValue, w16, Nat.mod_add_mod]

theorem readValue (v : Nat) : Gen.readValue v = Stun.readValue v := by
  -- the same for `a + b`, and the translation truncates the result twice
  simp only [Gen.readValue, Stun.readValue, w16, Nat.mod_add_mod, Nat.mod_mod]

theorem nearestPaddedValueLength (l : Nat) : Gen.nearestPaddedValueLength l = Stun.nearestPaddedValueLength l := rfl

theorem compatAttrType (v : Nat) : Gen.compatAttrType v = Stun.compatAttrType v := by
  simp only [Gen.compatAttrType, Stun.compatAttrType, beq_iff_eq]

theorem nextTimeout (tx : Txn) (now : Nat) : Gen.nextTimeout tx.attempt tx.rto now = Client.nextTimeout tx now := rfl

end Stun.Tie
