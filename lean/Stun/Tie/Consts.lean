/-
  Tie theorems: constants and tables regenerated from the repository (Stun/Gen/Generated.lean, rewritten on every run)
  equal the ones the hand-written models use. A changed constant in the Go sources breaks the named obligation.
-/
import Stun.Gen.Generated
import Stun.Model.Integrity
import Stun.Model.Client
import Stun.Model.URI
namespace Stun.Tie
open Stun

theorem magicCookie : Gen.c_magicCookie = (Stun.magicCookie : Int) := by decide
theorem attributeHeaderSize : Gen.c_attributeHeaderSize = (Stun.attributeHeaderSize : Int) := by decide
theorem messageHeaderSize : Gen.c_messageHeaderSize = (Stun.messageHeaderSize : Int) := by decide
theorem transactionIDSize : Gen.c_TransactionIDSize = (Stun.transactionIDSize : Int) := by decide
theorem padding : Gen.c_padding = (Stun.padding : Int) := by decide
theorem fingerprintXORValue : Gen.c_fingerprintXORValue = (Stun.fingerprintXORValue : Int) := by decide
theorem fingerprintSize : Gen.c_fingerprintSize = (Stun.fingerprintSize : Int) := by decide
theorem messageIntegritySize : Gen.c_messageIntegritySize = (Stun.messageIntegritySize : Int) := by decide
theorem familyIPv4 : Gen.c_familyIPv4 = (Stun.familyIPv4 : Int) := by decide
theorem familyIPv6 : Gen.c_familyIPv6 = (Stun.familyIPv6 : Int) := by decide
theorem maxUsernameB : Gen.c_maxUsernameB = (Stun.maxUsernameB : Int) := by decide
theorem maxRealmB : Gen.c_maxRealmB = (Stun.maxRealmB : Int) := by decide
theorem maxNonceB : Gen.c_maxNonceB = (Stun.maxNonceB : Int) := by decide
theorem softwareRawMaxB : Gen.c_softwareRawMaxB = (Stun.softwareRawMaxB : Int) := by decide
theorem errorCodeReasonStart : Gen.c_errorCodeReasonStart = (Stun.errorCodeReasonStart : Int) := by decide
theorem errorCodeReasonMaxB : Gen.c_errorCodeReasonMaxB = (Stun.errorCodeReasonMaxB : Int) := by decide
theorem errorCodeModulo : Gen.c_errorCodeModulo = (Stun.errorCodeModulo : Int) := by decide
theorem errorCodeBytes : Gen.c_errorCodeClassByte = 2 ∧ Gen.c_errorCodeNumberByte = 3 := by decide
theorem attrTypeSize : Gen.c_attrTypeSize = (Stun.attrTypeSize : Int) := by decide

theorem attrTypes :
    Gen.c_AttrMappedAddress = (Stun.attrMappedAddress : Int) ∧ Gen.c_AttrUsername = (Stun.attrUsername : Int) ∧
    Gen.c_AttrMessageIntegrity = (Stun.attrMessageIntegrity : Int) ∧ Gen.c_AttrErrorCode = (Stun.attrErrorCode : Int) ∧
    Gen.c_AttrUnknownAttributes = (Stun.attrUnknownAttributes : Int) ∧ Gen.c_AttrRealm = (Stun.attrRealm : Int) ∧
    Gen.c_AttrNonce = (Stun.attrNonce : Int) ∧ Gen.c_AttrXORMappedAddress = (Stun.attrXORMappedAddress : Int) ∧
    Gen.c_AttrSoftware = (Stun.attrSoftware : Int) ∧ Gen.c_AttrAlternateServer = (Stun.attrAlternateServer : Int) ∧
    Gen.c_AttrFingerprint = (Stun.attrFingerprint : Int) ∧ Gen.c_AttrResponseOrigin = (Stun.attrResponseOrigin : Int) ∧
    Gen.c_AttrOtherAddress = (Stun.attrOtherAddress : Int) := by decide

theorem errorReasons : Gen.errorReasons.map (fun p => (p.1.toNat, p.2)) = Stun.errorReasonsS := by rfl

/-- client defaults: RTO 300 ms, 7 retransmissions, reader buffer 1024 bytes -/
theorem clientDefaults :
    Gen.c_defaultRTO = (({} : Client).rto : Int) ∧ Gen.c_defaultMaxAttempts = (({} : Client).maxAttempts : Int) ∧
    Gen.readerBufferSize = Client.readerMsg.len ∧ Gen.readerBufferSize = Client.readerMsg.mem.length :=
  ⟨by decide, by decide, by decide, by rw [Client.readerMsg, List.length_replicate]; decide⟩

/-- default ports: 3478 for stun/turn, 5349 for stuns/turns (the strings ParseURI appends) -/
theorem defaultPorts :
    URI.Scheme.stun.defaultPort = URI.chr ':' :: URI.itoa Gen.c_DefaultPort ∧
    URI.Scheme.turn.defaultPort = URI.chr ':' :: URI.itoa Gen.c_DefaultPort ∧
    URI.Scheme.stuns.defaultPort = URI.chr ':' :: URI.itoa Gen.c_DefaultTLSPort ∧
    URI.Scheme.turns.defaultPort = URI.chr ':' :: URI.itoa Gen.c_DefaultTLSPort := by decide +kernel

theorem schemeProtoCodes :
    Gen.c_SchemeTypeUnknown = 0 ∧ Gen.c_SchemeTypeSTUN = 1 ∧ Gen.c_SchemeTypeSTUNS = 2 ∧ Gen.c_SchemeTypeTURN = 3 ∧
    Gen.c_SchemeTypeTURNS = 4 ∧ Gen.c_ProtoTypeUnknown = 0 ∧ Gen.c_ProtoTypeUDP = 1 ∧ Gen.c_ProtoTypeTCP = 2 := by decide

end Stun.Tie
