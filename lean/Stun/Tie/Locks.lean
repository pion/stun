/-
  Tie theorems for the structural facts the extractor reads off agent.go / client.go / uri.go:
  * every Agent method takes the mutex at most once, touches the shared fields only while holding it, and invokes the
    handler after unlocking (Close, documented as the exception, invokes it while locked) — this is the atomicity
    assumption under which one Agent method is one step of `Stun.Agent` (C13, C14);
  * the same for the Client's methods over `c.t`/`c.closed` (C10–C12, C15);
  * `DialURI`'s switch, evaluated by the extractor for every (scheme, proto), equals the dial plan of the model (C17).
-/
import Stun.Gen.Generated
import Stun.Properties.C17
namespace Stun.Tie
open Stun

theorem agentLocks :
    Gen.agentLockFacts.map (·.method) = ["StopWithError", "Stop", "Start", "Collect", "Process", "SetHandler", "Close"] ∧
    (∀ f ∈ Gen.agentLockFacts, f.locks ≤ 1 ∧ f.unlockedAccess = [] ∧ (f.handlerLocked = true → f.method = "Close")) := by
  decide +kernel

theorem clientLocks :
    (∀ f ∈ Gen.clientLockFacts, f.locks ≤ 1 ∧ f.unlockedAccess = [] ∧ f.handlerLocked = false) ∧
    (∀ m ∈ ["start", "Close", "delete", "handleAgentCallback", "Start"],
        ∃ f ∈ Gen.clientLockFacts, f.method = m ∧ f.locks = 1) := by
  decide +kernel

open C17 in
def planName : C17.DialPlan → String
  | .udp => "plain:udp" | .tcp => "plain:tcp" | .dtlsOverUdp => "dtls:udp:sni" | .tlsOverTcp => "tls:tcp:sni"
  | .unsupported => "unsupported"
def schemeX : List C17.SchemeX := [.unknown, .stun, .stuns, .turn, .turns]
def protoX : List C17.ProtoX := [.unknown, .udp, .tcp]

/-- "sni" in a plan's name: the TLS/DTLS plans pass the URI host as ServerName -/
theorem dialTable :
    Gen.dialTable = (List.range 5).flatMap (fun s => (List.range 3).map (fun p =>
      (s, p, planName (C17.dialPlan (schemeX.getD s .unknown) (protoX.getD p .unknown))))) := by
  decide +kernel

end Stun.Tie
