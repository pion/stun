/-
  C17 (positive half): String then ParseURI is the identity on every URI whose host ParseURI can produce, except
  the one host shape of known finding F8. The negative half (F8) is in Stun/Properties/C17.lean.
-/
import Stun.Proofs.URIRoundTrip
import Stun.Properties.C17
namespace Stun.C17
open Stun Stun.URI

/-- the hypotheses of the round trip: what `accepted_wellformed` guarantees of a parsed URI (non-empty host, port in
    range, the transport the scheme implies when the scheme carries no transport parameter), host bytes that can
    occur in an accepted host, and NOT the shape of known finding F8 (a host without ':' that begins with '/') -/
structure RoundTripURI (u : URI.URI) : Prop where
  host_ne : u.host ≠ []
  host_ok : ∀ b ∈ u.host, HostChar b
  not_f8 : chr ':' ∉ u.host → u.host.head? ≠ some (chr '/')
  port_lo : 0 ≤ u.port
  port_hi : u.port ≤ 65535
  stun_udp : u.scheme = .stun → u.proto = .udp
  stuns_tcp : u.scheme = .stuns → u.proto = .tcp

/-- `hq` is what `URI.String` writes: no query for stun / stuns, where the scheme fixes the transport -/
theorem parseURI_of_parts {retry : Bool} {raw opq q host : Str} {sch : Scheme} {port : Int} {proto : Proto}
    (hu : urlParse raw = .rootless sch.str opq q) (hs : splitHostPort opq = .ok (host, itoa port))
    (hne : host ≠ []) (hlo : 0 ≤ port) (hhi : port ≤ 65535)
    (hq : match sch with
      | .stun => q = [] ∧ proto = .udp
      | .stuns => q = [] ∧ proto = .tcp
      | _ => parseProto q = .ok (some proto)) :
    parseURI retry raw = .ok ⟨sch, host, port, proto⟩ := by
  have hh : (host == []) = false := by simpa using hne
  have hr : ¬(port < 0 ∨ port > 65535) := by omega
  have hpq : parseQuery [] = ([], false) := by decide
  rw [parseURI, hu]
  simp only [newSchemeType_str, hs, hh, atoi_itoa port hlo hhi, hr]
  -- per scheme: `hq` gives the query (empty: `hpq`) or what `parseProto` returns for it, and the branch returns the URI
  cases sch <;> simp_all

/-- **C17, round trip.** Formatting a URI and parsing the result yields the same URI, for every host over the bytes an
    accepted host can contain (registered names, IPv4 and IPv6 literals, zones, percent signs, ...), every port
    0..65535, all four schemes and both transports; for the F8 shape the statement is false
    (`roundtrip_fails_on_slash_host`). Hosts with a ':' take the bracketed form. -/
theorem roundtrip (u : URI.URI) (h : RoundTripURI u) : parseURI true u.toStr = .ok u := by
  obtain ⟨sch, host, port, proto⟩ := u
  obtain ⟨hne, hok, hf8, hlo, hhi, hs1, hs2⟩ := h
  dsimp only at hne hok hf8 hlo hhi hs1 hs2
  have hdig : ∀ b ∈ itoa port, HostChar b ∧ b ≠ chr ':' := fun b hb => digit_hostChar b (isDigit_of_mem_itoa hlo hb)
  have hall : ∀ b ∈ host ++ itoa port, HostChar b :=
    List.forall_mem_append.mpr ⟨hok, fun b hb => (hdig b hb).1⟩
  -- the opaque part `URI.String` writes is `JoinHostPort host port`: SplitHostPort splits it back, ...
  have hsplit : splitHostPort (joinHostPort host (itoa port)) = .ok (host, itoa port) :=
    splitHostPort_joinHostPort (fun hm => (hdig _ hm).2 rfl) (fun hm => (hall _ hm).2.2.1 rfl)
      (fun hm => (hall _ hm).2.2.2 rfl)
  -- ... url.Parse keeps it whole (host bytes, digits and `[ ] :` neither end the opaque part nor are rejected), ...
  have hopq : ∀ b ∈ joinHostPort host (itoa port), Plain b ∧ b ≠ chr '?' := by
    intro b hb
    rcases mem_joinHostPort hb with h | rfl | rfl | rfl
    · exact ⟨(hall b h).1, (hall b h).2.1⟩
    all_goals exact ⟨⟨by decide, by decide⟩, by decide⟩
  -- ... and does not take it for a path: this is where the F8 shape is excluded
  have hhead : (joinHostPort host (itoa port)).head? ≠ some (chr '/') := by
    unfold joinHostPort
    split
    · simp +decide
    · next hc =>
      have hs : host.head? ≠ some (chr '/') := hf8 (by simpa using hc)
      cases host with
      | nil => exact absurd rfl hne
      | cons c r => simpa using hs
  -- only to feed `_hne` of `urlParse_rootless`, which its proof does not use (likewise `hqne` in the last case)
  have hopqne : joinHostPort host (itoa port) ≠ [] := by unfold joinHostPort; split <;> simp
  have hlitq : lit "?transport=" = chr '?' :: lit "transport=" := by decide +kernel
  cases sch
  case stun | stuns =>
    refine parseURI_of_parts (q := []) ?_ hsplit hne hlo hhi (by simp [hs1, hs2])
    simpa [URI.toStr] using urlParse_rootless _ _ [] false hopq hopqne hhead (by simp) (by simp) (by simp)
  case turn | turns =>
    refine parseURI_of_parts (q := lit "transport=" ++ proto.str) ?_ hsplit hne hlo hhi (parseProto_transport proto)
    simpa [URI.toStr, hlitq] using urlParse_rootless _ _ _ true hopq hopqne hhead (query_clean proto)
      (by cases proto <;> decide) (by simp)

/-- URIs with a registered-name / IPv4 host: a non-empty host of letters, digits, '.', '-' and '_' -/
structure RegNameURI (u : URI.URI) : Prop where
  host_ne : u.host ≠ []
  host_ok : ∀ b ∈ u.host, isRegChar b = true
  port_lo : 0 ≤ u.port
  port_hi : u.port ≤ 65535
  stun_udp : u.scheme = .stun → u.proto = .udp
  stuns_tcp : u.scheme = .stuns → u.proto = .tcp

theorem roundtrip_regname (u : URI.URI) (h : RegNameURI u) : parseURI true u.toStr = .ok u := by
  refine roundtrip u ⟨h.host_ne, fun b hb => (regChar_hostChar b (h.host_ok b hb)).1, fun _ => ?_, h.port_lo, h.port_hi,
    h.stun_udp, h.stuns_tcp⟩
  cases hh : u.host with
  | nil => exact absurd hh h.host_ne
  | cons c r => simpa using (regChar_hostChar c (h.host_ok c (hh ▸ List.mem_cons_self))).2.1

example : RegNameURI ⟨.turns, lit "turn.example.org", 5349, .udp⟩ :=
  ⟨by decide, by decide, by decide, by decide, (fun h => nomatch h), (fun h => nomatch h)⟩

/-- an IPv6 literal with a zone: bracketed form -/
example : RoundTripURI ⟨.stun, lit "fe80::1%eth0", 3478, .udp⟩ :=
  ⟨by decide, by decide, by decide, by decide, by decide, (fun _ => rfl), (fun h => nomatch h)⟩

/-- a host that begins with '/' but contains ':' is NOT the F8 shape: it round-trips (bracketed) -/
example : RoundTripURI ⟨.turn, lit "/a:b", 1, .tcp⟩ :=
  ⟨by decide, by decide, by decide, by decide, by decide, (fun h => nomatch h), (fun h => nomatch h)⟩

theorem accepted_host_chars (raw : Str) (u : URI.URI) (h : parseURI true raw = .ok u) : ∀ b ∈ u.host, HostChar b := by
  obtain ⟨⟨raw', scheme, opq, q, p, hu, hsp⟩, _⟩ := parseURI_ok h
  have hopq := urlParse_opq_chars raw' scheme opq q hu
  obtain ⟨hsub, hbr⟩ := splitHostPort_host opq u.host p hsp
  exact fun b hb => ⟨(hopq b (hsub b hb)).1, (hopq b (hsub b hb)).2, hbr b hb⟩

/-- **C17, round trip, full statement minus F8.** For every string `ParseURI` accepts, formatting the result and
    parsing it again yields the same URI, unless the host has the F8 shape (no ':' and a leading '/'), which can only
    come from a bracketed input such as `stun:[/a]` and for which the statement is false. -/
theorem roundtrip_accepted (raw : Str) (u : URI.URI) (h : parseURI true raw = .ok u)
    (hf8 : chr ':' ∉ u.host → u.host.head? ≠ some (chr '/')) : parseURI true u.toStr = .ok u := by
  have wf := accepted_wellformed raw u h
  exact roundtrip u ⟨wf.host, accepted_host_chars raw u h, hf8, wf.portLo, wf.portHi, wf.stunUdp, wf.stunsTcp⟩

/-- the F8 exclusion is exactly the recorded finding: the refuted URI violates it -/
example : ¬ (chr ':' ∉ (lit "/a") → (lit "/a").head? ≠ some (chr '/')) := by decide

/-- idempotence: a URI that has been through String/ParseURI once is a fixed point -/
theorem roundtrip_idempotent (raw : Str) (u : URI.URI) (h : parseURI true raw = .ok u)
    (hf8 : chr ':' ∉ u.host → u.host.head? ≠ some (chr '/')) :
    ∀ v, parseURI true u.toStr = .ok v → v.toStr = u.toStr := by
  intro v hv
  rw [roundtrip_accepted raw u h hf8] at hv
  cases hv; rfl

end Stun.C17
