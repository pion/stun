/-
  C09 — setters reject unrepresentable values and fail atomically.
-/
import Stun.Proofs.Canonical
namespace Stun.C09
open Stun Stun.Msg Stun.BuildProofs

/-- text setters accept exactly the values within their attribute's limit (513 / 763 / 763 / 763 bytes) -/
theorem text_accept_iff (k : TextKind) (v : Bytes) (m : Msg) :
    (textAddToAs m k.attr v k.limit).2 = none ↔ v.length ≤ k.limit := by
  unfold textAddToAs checkOverflow
  by_cases h : v.length ≤ k.limit <;> simp [h]

theorem text_reject_kind (k : TextKind) (v : Bytes) (m : Msg) (h : k.limit < v.length) :
    textAddToAs m k.attr v k.limit = (m, some .overflow) := by
  unfold textAddToAs checkOverflow
  have : ¬ v.length ≤ k.limit := by omega
  simp [this]

/-- address setters accept exactly 4- and 16-byte IPs -/
theorem ip_accept_iff (m : Msg) (attr : Nat) (ip : Bytes) (port : Nat) :
    ((xorAddToAs m attr ip port).2 = none ↔ (ip.length = 4 ∨ ip.length = 16)) ∧
    ((mappedAddToAs m attr ip port).2 = none ↔ (ip.length = 4 ∨ ip.length = 16)) := by
  unfold xorAddToAs mappedAddToAs addrFamily
  by_cases h16 : ip.length = 16
  · by_cases hv4 : isIPv4 ip = true <;> simp [h16, hv4]
  · by_cases h4 : ip.length = 4 <;> simp [h16, h4]

/-- ERROR-CODE with an explicit reason: accepted iff the reason is at most 763 bytes -/
theorem errorCode_reason_iff (m : Msg) (code : Nat) (reason : Bytes) :
    (errorCodeAddTo m code reason).2 = none ↔ reason.length ≤ errorCodeReasonMaxB := by
  unfold errorCodeAddTo; rw [reason_overflow]
  by_cases h : reason.length ≤ errorCodeReasonMaxB <;> simp [h]

/-- every default reason is short: the one fact about the table `errorReasons` that needs evaluating it -/
theorem errorReasons_short : ∀ p ∈ errorReasons, p.2.length ≤ errorCodeReasonMaxB := by decide +kernel

/-- ERROR-CODE with the default reason: accepted iff the code has a default reason -/
theorem errorCodeDefault_accept_iff (m : Msg) (code : Nat) :
    (errorCodeDefaultAddTo m code).2 = none ↔ (errorReasons.lookup code).isSome = true := by
  unfold errorCodeDefaultAddTo
  cases h : errorReasons.lookup code with
  | none => simp
  | some r =>
    obtain ⟨_, _, hmem, -⟩ := List.lookup_eq_some_iff.1 h
    have := errorReasons_short (code, r) (hmem ▸ List.mem_append_right _ List.mem_cons_self)
    simpa using (errorCode_reason_iff m code r).mpr this

/-- MESSAGE-INTEGRITY is refused once FINGERPRINT is present, and the message is untouched -/
theorem integrity_after_fp_refused (mac : Bytes → Bytes → Bytes) (key : Bytes) (m : Msg)
    (h : m.attrs.any (fun a => a.typ == attrFingerprint) = true) :
    integrityAddTo mac key m = (m, some .fpBeforeIntegrity) := by
  unfold integrityAddTo; simp [h]

theorem integrity_accepted_without_fp (mac : Bytes → Bytes → Bytes) (key : Bytes) (m : Msg)
    (h : m.attrs.any (fun a => a.typ == attrFingerprint) = false) :
    (integrityAddTo mac key m).2 = none := by
  unfold integrityAddTo; simp [h]

/-- when any setter returns an error, the message — raw bytes, spare capacity, length, attribute list — is exactly
    as before the call -/
theorem setter_fail_atomic (mac : Bytes → Bytes → Bytes) (s : Setter) (m : Msg) (e : SetErr)
    (h : (s.addTo mac m).2 = some e) : (s.addTo mac m).1 = m :=
  BuildProofs.setter_fail_atomic mac s m e h

/-- `Build` stops at and returns the first failing setter's error; the message is the result of exactly the setters
    before it -/
theorem build_first_error (mac : Bytes → Bytes → Bytes) (ss : List Setter) (m : Msg) (e : SetErr)
    (h : (build mac m ss).2 = some e) :
    ∃ pre s post, ss = pre ++ s :: post ∧ (build mac m pre).2 = none ∧
      (s.addTo mac (build mac m pre).1).2 = some e ∧ (build mac m ss).1 = (build mac m pre).1 :=
  BuildProofs.build_first_error mac ss _ e h

/-- release and debug `CheckOverflow` agree on error-ness: both are `got ≤ max` -/
theorem checkOverflow_iff (got maxVal : Nat) : checkOverflow got maxVal = true ↔ got ≤ maxVal := by
  simp [checkOverflow]

-- non-vacuity: a 514-byte USERNAME is rejected, a 513-byte one accepted
example : ¬ ((List.replicate 514 (0 : UInt8)).length ≤ TextKind.username.limit) ∧
    (List.replicate 513 (0 : UInt8)).length ≤ TextKind.username.limit := by
  simp only [List.length_replicate, TextKind.limit, maxUsernameB]; omega

end Stun.C09
