/-
  C10 at level L2: the collector can be suspended inside a retransmission's `ClientAgent.Start` or `Connection.Write`,
  a caller inside `Start`'s first `Write`, while the reader and other callers run.

  * `run2_l1` makes every L1 theorem (C10–C12, C15) the L2 theorem for connections that never block.
  * The schedules of K1, K1b, F12, F14, F15 as concrete histories. K1: on the pinned tree the error path of the late
    `Write` finished the transaction a second time (reproduced on the implementation by corpus/C10/k1_double_put.ops:
    the next Start's handler received the stale error and lost its own response).
  * At most once and never unstarted for ALL L2 histories, from `run2_spec` (Proofs/ClientL2Acct.lean).
-/
import Stun.Proofs.ClientHistory
import Stun.Proofs.ClientL2Acct
namespace Stun.C10L2
open Stun Stun.Client Stun.ClientProofs

theorem callback_l1 (k : Client2) (hb : k.blockIds = []) (ha : k.blockAgentIds = []) (id : TID) (e : CEv) :
    k.callback id e = ((k.lift (k.c.callback id e)).1, (k.lift (k.c.callback id e)).2, false) := by
  unfold Client2.callback
  simp only [hb, ha, List.contains_nil, Bool.false_eq_true, if_false, ite_self]
  split <;> rfl

theorem callbacks_l1 (k : Client2) (hb : k.blockIds = []) (ha : k.blockAgentIds = []) (evs : List (TID × CEv)) :
    k.callbacks evs = k.lift (k.c.callbacks evs) := by
  induction evs generalizing k with
  | nil => rfl
  | cons p r ih =>
    obtain ⟨id, e⟩ := p
    simp only [Client2.callbacks, callbacks_cons, callback_l1 k hb ha]
    rw [ih (k.lift (k.c.callback id e)).1 hb ha]
    rfl

theorem tick_l1 (k : Client2) (hb : k.blockIds = []) (ha : k.blockAgentIds = []) (t : Nat) : k.tick t = k.lift (k.c.tick t) := by
  rw [tick_eq]
  exact callbacks_l1 (⟨{ k.c with now := t, agent := (k.c.agent.collect t).1 }, k.blockIds, k.blockAgentIds, k.susp⟩ : Client2)
    hb ha _

theorem step2_l1 (k : Client2) (hb : k.blockIds = []) (ha : k.blockAgentIds = []) (op : COp) :
    (k.step (.l1 op)).1.c = (k.c.step op).1 ∧ (k.step (.l1 op)).2 = (k.c.step op).2 ∧
    (k.step (.l1 op)).1.blockIds = [] ∧ (k.step (.l1 op)).1.blockAgentIds = [] ∧ (k.step (.l1 op)).1.susp = k.susp := by
  by_cases ht : ∃ t, op = .tick t
  · obtain ⟨t, rfl⟩ := ht
    simp only [Client2.step, Client.step, tick_l1 k hb ha]
    exact ⟨rfl, rfl, hb, ha, rfl⟩
  · rw [step_not_tick k op (fun t h => ht ⟨t, h⟩)]
    exact ⟨rfl, rfl, hb, ha, rfl⟩

/-- whole histories: without blocking writes the L2 outputs are the L1 outputs -/
theorem run2_l1 (k : Client2) (hb : k.blockIds = []) (ha : k.blockAgentIds = []) (ops : List COp) :
    (k.run (ops.map .l1)).2 = allOuts (run k.c ops).2 ∧ (k.run (ops.map .l1)).1.c = (run k.c ops).1 := by
  induction ops generalizing k with
  | nil => exact ⟨rfl, rfl⟩
  | cons op r ih =>
    obtain ⟨s1, s2, s3, s4, _⟩ := step2_l1 k hb ha op
    obtain ⟨i1, i2⟩ := ih (k.step (.l1 op)).1 s3 s4
    simp only [List.map_cons, Client2.run, run, allOuts, List.flatMap_cons]
    rw [s1] at i1 i2
    refine ⟨?_, i2⟩
    rw [i1, s2]; rfl

def id1 : TID := [1, 2, 3, 4, 5, 6, 7, 8, 9, 10, 11, 12]
def req1 : Bytes := [0, 1, 0, 0]
def resp1 : Bytes := [1, 1, 0, 0]

/-- K1: the history Start; (Write of the first retransmission blocks); response processed; Write fails -/
def k1History : List COp2 :=
  [.l1 (.start id1 req1 (some 1)), .blockWrite id1, .l1 (.tick 300000001), .deliverDecoded id1 resp1, .release false]

/-- the K1 history on the repaired client: the late write failure finds the transaction completed and does nothing -/
theorem k1_history :
    (({} : Client2).run k1History).2 =
      [.write req1 (some 1),                   -- Start
       .write req1 (some 1),                   -- the retransmission, entered and blocked
       .call 1 id1 (.msg resp1)] ∧             -- the response reaches h1; the failed Write adds nothing
    calls 1 (({} : Client2).run k1History).2 = 1 := by
  decide +kernel

/-- … and a second transaction started in between is not touched by the late failure -/
theorem k1_history_other_start_untouched :
    (({} : Client2).run [.l1 (.start id1 req1 (some 1)), .blockWrite id1, .l1 (.tick 300000001),
      .deliverDecoded id1 resp1, .l1 (.start [9,9,9,9,9,9,9,9,9,9,9,9] req1 (some 2)), .release false,
      .deliverDecoded [9,9,9,9,9,9,9,9,9,9,9,9] resp1]).2 =
      [.write req1 (some 1), .write req1 (some 1), .call 1 id1 (.msg resp1), .write req1 (some 2),
       .call 2 [9,9,9,9,9,9,9,9,9,9,9,9] (.msg resp1)] := by
  decide +kernel

/-- a failing blocked Write with nothing in between is the ordinary L1 write failure: one invocation -/
theorem blocked_write_failure_alone :
    (({} : Client2).run [.l1 (.start id1 req1 (some 1)), .blockWrite id1, .l1 (.tick 300000001), .release false]).2 =
      [.write req1 (some 1), .write req1 (some 1), .call 1 id1 .writeErr] := by
  decide +kernel

/-- F12 (known finding): the response arrives while `Start` is still inside its first `Connection.Write`; the handler
    runs; the `Write` then fails and `Start` returns an error — "if Start returns an error the handler is never
    invoked" does not hold on this schedule. (The agent no longer knows the id, so the error is a StopErr.) -/
theorem f12_start_error_after_handler_ran :
    (({} : Client2).step (.startBlocked id1 req1 1)).2.1 = none ∧
    ((({} : Client2).step (.startBlocked id1 req1 1)).1.step (.deliverDecoded id1 resp1)).2.2 = [.call 1 id1 (.msg resp1)] ∧
    (((({} : Client2).step (.startBlocked id1 req1 1)).1.step (.deliverDecoded id1 resp1)).1.step (.release false)).2.1
      = some .stopErr := by
  decide +kernel

/-- without an intervening response the blocked first write behaves like the L1 Start: error, handler never invoked -/
theorem start_blocked_failure_alone :
    (({} : Client2).run [.startBlocked id1 req1 1, .release false, .l1 (.tick 900000000), .l1 .close]).2 =
      [.write req1 (some 1), .connClose] := by
  decide +kernel

/-- the third suspension point: the collector is inside `ClientAgent.Start` of a retransmission (the transaction is
    registered with the client again, not yet with the agent); the response completes it; `Start` then fails. The
    client must not finish the transaction a second time (defect K1b on the pinned tree: same double `Put` as K1). -/
theorem k1b_history :
    (({} : Client2).run [.l1 (.start id1 req1 (some 1)), .blockAgent id1, .l1 (.tick 300000001),
      .deliverDecoded id1 resp1, .release false]).2 =
      [.write req1 (some 1), .call 1 id1 (.msg resp1)] := by
  decide +kernel

/-- with nothing in between, a failing agent `Start` is the L1 behaviour: the handler gets the agent's error once -/
theorem agent_start_failure_alone :
    (({} : Client2).run [.l1 (.start id1 req1 (some 1)), .blockAgent id1, .l1 (.tick 300000001), .release false]).2 =
      [.write req1 (some 1), .call 1 id1 .agentClosed] := by
  decide +kernel

/-- … and a succeeding one is the L1 retransmission -/
theorem agent_start_ok_alone :
    (({} : Client2).run [.l1 (.start id1 req1 (some 1)), .blockAgent id1, .l1 (.tick 300000001), .release true]).2 =
      [.write req1 (some 1), .write req1 (some 1)] := by
  decide +kernel

/-- F14 (known finding, C11): the response is processed while the collector is inside `ClientAgent.Start`; the
    retransmission then still registers the id with the agent and writes the request once more — a write after the
    transaction has completed -/
theorem f14_write_after_completion :
    (({} : Client2).run [.l1 (.start id1 req1 (some 1)), .blockAgent id1, .l1 (.tick 300000001),
      .deliverDecoded id1 resp1, .release true]).2 =
      [.write req1 (some 1), .call 1 id1 (.msg resp1), .write req1 (some 1)] := by
  decide +kernel

theorem l2_calls_le_starts (ops : List COp2) (h : Nat) : calls h (({} : Client2).run ops).2 ≤ startCount2 h ops := by
  have := (run2_spec ops [] {} (inv2_empty _ _ rfl rfl)).2.2 h
  have h0 : pend h ({} : Client2).c = 0 := rfl
  omega

/-- no handler is ever invoked twice, whatever blocks and whatever happens meanwhile -/
theorem l2_handler_at_most_once (ops : List COp2) (h : Nat) (hu : startCount2 h ops ≤ 1) :
    calls h (({} : Client2).run ops).2 ≤ 1 :=
  Nat.le_trans (l2_calls_le_starts ops h) hu

/-- a handler that was never given to `Start` is never invoked -/
theorem l2_never_started_never_invoked (ops : List COp2) (h : Nat) (hu : startCount2 h ops = 0) :
    calls h (({} : Client2).run ops).2 = 0 :=
  Nat.eq_zero_of_le_zero (hu ▸ l2_calls_le_starts ops h)

/-- every invocation is the handler of a `Start` of the history, under the id it was started with -/
theorem l2_invocation_from_start (ops : List COp2) (h : Nat) (id : TID) (e : CEv)
    (hm : COut.call h id e ∈ (({} : Client2).run ops).2) : ∃ raw, (h, id, raw) ∈ starts2Of ops := by
  obtain ⟨raw, hr⟩ := (run2_spec ops [] {} (inv2_empty _ _ rfl rfl)).2.1 h id e hm
  exact ⟨raw, by simpa using hr⟩

/-- the hypothesis is met by the K1 / K1b / F12 / F14 histories (one `Start` of handler 1 each), so the theorem
    speaks about them -/
example : startCount2 1 k1History ≤ 1 := by decide
example : startCount2 1 [.startBlocked id1 req1 1, .deliverDecoded id1 resp1, .release false] ≤ 1 := by decide

/-- F15 (known finding): `Start(h1)` is inside its first `Connection.Write`; the response arrives and completes it
    (h1 runs); a second `Start(h2)` registers the SAME transaction id and returns nil; the first `Write` then fails and
    `Start(h1)`'s error path deletes by id - removing h2's registration - and stops h2's agent transaction. h2's own
    response then goes to nobody, no timeout is ever reported for it and `Close` does not complete it: a handler whose
    `Start` returned nil is never invoked. (`l2_handler_at_most_once` is an inequality for exactly this reason.) -/
theorem f15_same_id_restart_loses_handler :
    let ops : List COp2 := [.startBlocked id1 req1 1, .deliverDecoded id1 resp1, .l1 (.start id1 req1 (some 2)),
      .release false, .deliverDecoded id1 resp1, .l1 (.tick 900000000), .l1 .close]
    ((({} : Client2).step (.startBlocked id1 req1 1)).1.step (.deliverDecoded id1 resp1)).1.step
        (.l1 (.start id1 req1 (some 2))) |>.2.1 = none ∧          -- Start(h2) returned nil
    calls 1 (({} : Client2).run ops).2 = 1 ∧ calls 2 (({} : Client2).run ops).2 = 0 := by
  decide +kernel

end Stun.C10L2
