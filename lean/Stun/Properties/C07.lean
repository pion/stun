/-
  C07 — attribute getters and checkers are total, local and side-effect free.
  Getter models read the value through checked accessors (`rd16`, `rdByte`, `sliceFrom`), so "never panics" is a
  theorem about the guards, not a consequence of totalised indexing. MESSAGE-INTEGRITY's checker (the only one that
  writes to the message) is treated in C04 (`check_no_panic`, `check_pure`).
-/
import Stun.Model.Integrity
import Stun.Proofs.Reads
namespace Stun.C07
open Stun

theorem xorGet_no_panic (m : Msg) (attr : Nat) : xorGetFromAs m attr ≠ .panic := by
  unfold xorGetFromAs
  cases m.get attr with
  | none => simp
  | some value =>
    by_cases h4 : value.length ≤ 4
    · simp [h4]
    · obtain ⟨r0, r2, s4⟩ := addr_guards h4
      simp only [h4, if_false, r0, r2, s4]
      -- with the reads in range what is left is the two error exits and the result
      generalize (if be16 (value.drop 0) = familyIPv6 then 16 else 4) = ipLen
      split
      · simp
      · split <;> simp

theorem mappedGet_no_panic (m : Msg) (attr : Nat) : mappedGetFromAs m attr ≠ .panic := by
  unfold mappedGetFromAs
  cases m.get attr with
  | none => simp
  | some value =>
    by_cases h4 : value.length ≤ 4
    · simp [h4]
    · obtain ⟨r0, r2, s4⟩ := addr_guards h4
      simp only [h4, if_false, r0, r2, s4]
      split <;> simp

theorem textGet_no_panic (m : Msg) (attr : Nat) : textGetFromAs m attr ≠ .panic := by
  unfold textGetFromAs; cases m.get attr <;> simp

theorem errorCodeGet_no_panic (m : Msg) : errorCodeGetFrom m ≠ .panic := by
  rw [errorCodeGetFrom_eq]
  cases m.get attrErrorCode with
  | none => simp
  | some v =>
    simp only
    cases Spec.decErrorCode v <;> simp

/-- the getter is the RFC's list decoder (`unknownGetFrom_eq`), which is defined on every value of even length -/
theorem unknownGet_no_panic (m : Msg) : unknownGetFrom m ≠ .panic := by
  rw [unknownGetFrom_eq]
  cases m.get attrUnknownAttributes with
  | none => simp
  | some v =>
    simp only
    by_cases hm : v.length % 2 ≠ 0
    · simp [hm]
    · rw [if_neg hm]
      have := decUnknown_isSome v (Decidable.not_not.1 hm)
      cases hd : Spec.decUnknown v with
      | none => rw [hd] at this; cases this
      | some l => simp

/-- FINGERPRINT's checker cannot panic on any message with at least 8 visible bytes (every decoded message has 20) -/
theorem fingerprintCheck_no_panic (m : Msg) (h : 8 ≤ m.len) : fingerprintCheck m ≠ .panic := by
  unfold fingerprintCheck
  cases m.get attrFingerprint with
  | none => simp
  | some b =>
    simp only
    by_cases hb : b.length ≠ fingerprintSize
    · rw [if_pos hb]; simp
    · rw [if_neg hb, if_neg (by simp only [fingerprintSize, attributeHeaderSize]; omega)]; split <;> simp

theorem xorGet_local (m1 m2 : Msg) (attr : Nat) (hv : m1.get attr = m2.get attr) (ht : m1.tid = m2.tid) :
    xorGetFromAs m1 attr = xorGetFromAs m2 attr := by
  unfold xorGetFromAs; rw [hv, ht]

theorem mappedGet_local (m1 m2 : Msg) (attr : Nat) (hv : m1.get attr = m2.get attr) :
    mappedGetFromAs m1 attr = mappedGetFromAs m2 attr := by
  unfold mappedGetFromAs; rw [hv]

theorem textGet_local (m1 m2 : Msg) (attr : Nat) (hv : m1.get attr = m2.get attr) :
    textGetFromAs m1 attr = textGetFromAs m2 attr := by
  unfold textGetFromAs; rw [hv]

theorem errorCodeGet_local (m1 m2 : Msg) (hv : m1.get attrErrorCode = m2.get attrErrorCode) :
    errorCodeGetFrom m1 = errorCodeGetFrom m2 := by
  unfold errorCodeGetFrom; rw [hv]

theorem unknownGet_local (m1 m2 : Msg) (hv : m1.get attrUnknownAttributes = m2.get attrUnknownAttributes) :
    unknownGetFrom m1 = unknownGetFrom m2 := by
  unfold unknownGetFrom; rw [hv]

/-- the fingerprint check depends only on the FINGERPRINT value and the visible bytes before the last 8 -/
theorem fingerprintCheck_local (m1 m2 : Msg) (hv : m1.get attrFingerprint = m2.get attrFingerprint)
    (hr : m1.raw = m2.raw) (hl : m1.len = m2.len) : fingerprintCheck m1 = fingerprintCheck m2 := by
  unfold fingerprintCheck; rw [hv, hr, hl]

/-- `Get` itself only looks at the attribute list: padding, neighbours' values and spare capacity are invisible -/
theorem get_local (m1 m2 : Msg) (t : Nat) (h : m1.attrs = m2.attrs) : m1.get t = m2.get t := by
  unfold Msg.get; rw [h]

end Stun.C07
