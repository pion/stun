/-
  C10 — every started client transaction completes exactly once (L1, atomic-operation model of client.go).
  Histories are arbitrary lists of operations (Start / Indicate, datagram delivery incl. duplicates, garbage and
  unknown ids, collector ticks, scripted write failures, SetRTO, Close) of any length over any number of ids.
  `totalCalls h` counts the invocations of handler `h` in the whole history; `pend h` whether it is still registered.

  The full statement — every successful Start's handler is invoked exactly once, with a closed error if the client is
  closed first — is `exactly_once_by_close`. It was false on the pinned tree (F6: `handleAgentCallback` returned early
  on a closed client, so the closed events of `Agent.Close` were dropped and `Do` hung); the repaired client completes
  them. The proof rests on the invariant of Proofs/ClientSync.lean (`run_sinv`; `tables_synchronised` below is what
  it says about the two tables): everything registered with the client is registered with the agent, so `Agent.Close` reports every
  transaction in flight.
  Also proved: at most once always; never without / before its Start; any error of Start registers nothing.
  Interleavings inside one operation are L2 (Properties/C10L2.lean; known finding F12).
-/
import Stun.Proofs.ClientSync
namespace Stun.C10
open Stun Stun.Client Stun.ClientProofs

/-- from a new client, a handler is invoked at most as often as it was given to `Start` -/
theorem calls_le_starts (ops : List COp) (h : Nat) : totalCalls h (run {} ops).2 ≤ startCount h ops := by
  have := (run_spec ops [] {} tinv_init (fromStarts_init _)).2.2.2.2 h
  have h0 : pend h ({} : Client) = 0 := rfl
  omega

/-- no handler is ever invoked twice: if a handler is used by at most one `Start` of the history, it is invoked at
    most once in the whole history -/
theorem handler_at_most_once (ops : List COp) (h : Nat) (hu : startCount h ops ≤ 1) :
    totalCalls h (run {} ops).2 ≤ 1 :=
  Nat.le_trans (calls_le_starts ops h) hu

/-- a handler that was never given to `Start` is never invoked -/
theorem never_started_never_invoked (ops : List COp) (h : Nat) (hu : startCount h ops = 0) :
    totalCalls h (run {} ops).2 = 0 :=
  Nat.le_zero.mp (hu ▸ calls_le_starts ops h)

theorem start_pend (c : Client) (id : TID) (raw : Bytes) (h : Nat) :
    (∀ h', calls h' (c.start id raw (some h)).2.2 = 0) ∧
    ((c.start id raw (some h)).2.1 = none →
      ∀ h', pend h' (c.start id raw (some h)).1 = pend h' c + (if h == h' then 1 else 0)) ∧
    ((c.start id raw (some h)).2.1 ≠ none → ∀ h', pend h' (c.start id raw (some h)).1 = pend h' c) := by
  have o := start_outcome c id raw h
  generalize c.start id raw (some h) = r at o ⊢
  cases o with
  | rejected => exact ⟨fun _ => rfl, nofun, fun _ _ => rfl⟩
  | ok _ _ f => exact ⟨fun _ => rfl, fun _ h' => by rw [pend_congr f.t, pend_insert], fun hne => absurd rfl hne⟩
  | failed _ w _ f => exact ⟨fun h' => calls_wrote h' w raw h, nofun, fun _ => pend_congr f.t⟩

/-- if `Start` returns ErrClientClosed, a write error or a StopErr, or the id is already in the client's table, the
    handler is not registered by that call (so, being fresh, it is never invoked: `never_started…` applies to the
    rest of the history with the pending count unchanged) -/
theorem start_error_not_registered (c : Client) (hi : TInv c) (id : TID) (raw : Bytes) (h : Nat)
    (herr : (c.start id raw (some h)).2.1 = some .clientClosed ∨ (c.start id raw (some h)).2.1 = some .write ∨
            (c.start id raw (some h)).2.1 = some .stopErr ∨ (c.lookup id).isSome = true) :
    ∀ h', pend h' (c.start id raw (some h)).1 = pend h' c ∧ calls h' (c.start id raw (some h)).2.2 = 0 := by
  have _ := hi   -- not used: a `Start` that fails puts the table back as it was, consistent or not
  obtain ⟨a1, _, a3⟩ := start_pend c id raw h
  have hne : (c.start id raw (some h)).2.1 ≠ none := by
    rcases herr with e | e | e | e
    · rw [e]; nofun
    · rw [e]; nofun
    · rw [e]; nofun
    · -- an id in use is refused
      have o := start_outcome c id raw h
      generalize c.start id raw (some h) = r at o ⊢
      cases o with
      | ok hk => exact absurd ((lookup_iff c id).mp e) hk
      | rejected | failed => nofun
  exact fun h' => ⟨a3 hne h', a1 h'⟩

/-- whatever error `Start` returns — client closed, duplicate id, the agent refusing the transaction, a write error —
    nothing stays registered and no handler is invoked by the call: with a fresh handler, "if Start returns an error
    the handler is never invoked" (in L1; the L2 exception is known finding F12) -/
theorem start_error_never_registers (c : Client) (hi : TInv c) (id : TID) (raw : Bytes) (h : Nat)
    (herr : (c.start id raw (some h)).2.1 ≠ none) :
    ∀ h', pend h' (c.start id raw (some h)).1 = pend h' c ∧ calls h' (c.start id raw (some h)).2.2 = 0 :=
  have _ := hi   -- not used, as in `start_error_not_registered`
  fun h' => ⟨(start_pend c id raw h).2.2 herr h', (start_pend c id raw h).1 h'⟩

/-- after a successful `Start` with a fresh handler, in every continuation that does not reuse the handler:
    (invocations of the handler) + (still registered) = 1 — invoked exactly once, or still waiting -/
theorem invoked_xor_pending (c : Client) (hi : TInv c) (id : TID) (raw : Bytes) (h : Nat)
    (hfresh : pend h c = 0) (hok : (c.start id raw (some h)).2.1 = none)
    (rest : List COp) (hno : startCount h rest = 0) :
    totalCalls h (run (c.start id raw (some h)).1 rest).2 + pend h (run (c.start id raw (some h)).1 rest).1 = 1 := by
  have e := run_eq rest h hno (c.start id raw (some h)).1 (step_tinv c hi (.start id raw (some h)))
  have e2 := (start_pend c id raw h).2.1 hok h
  simp only [beq_self_eq_true, if_true] at e2
  omega

/-- a closed client never retransmits and never uses the fallback handler: an event either finds no transaction (and
    is dropped) or completes the one it finds — this is how `Close` completes the transactions in flight -/
theorem closed_callback (c : Client) (hc : c.closed = true) (id : TID) (e : CEv) :
    c.callback id e = match c.lookup id with
      | none => (c, [])
      | some tx => (c.erase id, [.call tx.h id e]) :=
  callback_closed c id e hc

theorem startCount_append_close (h : Nat) (ops : List COp) : startCount h (ops ++ [.close]) = startCount h ops := by
  unfold startCount; rw [startsOf_append, show startsOf [.close] = [] from rfl, List.append_nil]

/-- in every reachable state the client's table is a subset of the agent's: whatever is registered with the client
    will get an event from the agent (a response, a timeout, or the closed event of `Close`) -/
theorem tables_synchronised (ops : List COp) : Sync (run {} ops).1 :=
  (run_sinv ops {} tinv_init sinv_init).sync

/-- when `Close` returns, no transaction is registered any more — in every history -/
theorem close_leaves_nothing_registered (ops : List COp) : (run {} (ops ++ [.close])).1.t = [] :=
  close_leaves_nothing ops {} tinv_init sinv_init

/-- THE FULL STATEMENT (L1): after any history `pre`, a `Start` with a fresh handler that returns nil, any
    continuation `rest` that does not reuse the handler, and `Close`: the handler has been invoked EXACTLY ONCE when
    `Close` returns — by its response, a timeout after the last attempt, a write error, or ErrAgentClosed from `Close`
    itself. (It is never invoked again afterwards: `handler_at_most_once`, `C15.no_output_after_close`.) -/
theorem exactly_once_by_close (pre rest : List COp) (id : TID) (raw : Bytes) (h : Nat)
    (hfresh : pend h (run {} pre).1 = 0)
    (hok : ((run {} pre).1.start id raw (some h)).2.1 = none)
    (hno : startCount h rest = 0) :
    totalCalls h (run ((run {} pre).1.start id raw (some h)).1 (rest ++ [.close])).2 = 1 := by
  have hi := run_tinv pre {} tinv_init
  have key := invoked_xor_pending (run {} pre).1 hi id raw h hfresh hok (rest ++ [.close])
    (by rw [startCount_append_close]; exact hno)
  have ht : (run ((run {} pre).1.start id raw (some h)).1 (rest ++ [.close])).1.t = [] :=
    close_leaves_nothing rest _ (step_tinv _ hi (.start id raw (some h)))
      (start_sync _ (run_sinv pre {} tinv_init sinv_init) id raw (some h))
  have hp : pend h (run ((run {} pre).1.start id raw (some h)).1 (rest ++ [.close])).1 = 0 := by
    unfold pend; rw [ht]; rfl
  rw [hp] at key
  exact key

-- the hypothesis of `handler_at_most_once` is met by a history with one `Start` for the handler
example : startCount 7 [.start [1] [] (some 7), .tick 5] ≤ 1 := by decide

end Stun.C10
