/-
  C18 — the pooled HMAC equals RFC 2104 HMAC for every key, message, chunking and reuse history.
  `acquire key` = take ANY object in ANY state (whatever it served before) and `resetTo key`.
  Parametric in the hash `H` and block size `B` (assumption: digests are not longer than a block, true for SHA-1 and
  SHA-256 with B = 64). `sync.Pool` handing an object to one taker at a time is an assumption (DESIGN §5).
-/
import Stun.Model.HmacPool
import Stun.Spec.Hash
namespace Stun.C18
open Stun Stun.Hmac

variable (H : Bytes → Bytes) (B : Nat)

/-- the RFC 2104 pads of a key -/
def ipadOf (key : Bytes) : Bytes := mkPad B (if key.length > B then H key else key) 0x36
def opadOf (key : Bytes) : Bytes := mkPad B (if key.length > B then H key else key) 0x5c

/-- the object is consistently keyed with `key` and has absorbed `w` since the last reset/acquire -/
def Good (key w : Bytes) (h : Hmac) : Prop :=
  h.broken = false ∧ h.inner = ipadOf H B key ++ w ∧
  ((h.marshaled = false ∧ h.ipad = .key (ipadOf H B key) ∧ h.opad = .key (opadOf H B key)) ∨
   (h.marshaled = true ∧ h.ipad = .state (ipadOf H B key) ∧ h.opad = .state (opadOf H B key)))

/-- acquiring from the pool: whatever the object served before (any pads, any absorbed data, any flags — even an
    inconsistent or broken object), after `resetTo key` it is consistently keyed with nothing absorbed -/
theorem resetTo_establishes (h : Hmac) (key : Bytes) : Good H B key [] (resetTo H B h key) := by
  unfold Good resetTo ipadOf opadOf
  simp

theorem new_good (key : Bytes) : Good H B key [] (Hmac.new H B key) := resetTo_establishes H B _ key

theorem write_good (key w p : Bytes) (h : Hmac) (g : Good H B key w h) : Good H B key (w ++ p) (h.write p) := by
  obtain ⟨g1, g2, g3⟩ := g
  refine ⟨g1, ?_, g3⟩
  simp [Hmac.write, g2, List.append_assoc]

/-- RFC 2104 with the pads made explicit -/
def hmacSpec (key msg : Bytes) : Bytes := H (opadOf H B key ++ H (ipadOf H B key ++ msg))

/-- pads as keys up to the first `Reset`, as marshaled hash states from then on; on either record `Sum` and `Reset`
    compute -/
theorem Good.form {key w : Bytes} {h : Hmac} (g : Good H B key w h) : ∃ outer,
    h = ⟨.key (ipadOf H B key), .key (opadOf H B key), ipadOf H B key ++ w, outer, false, false⟩ ∨
    h = ⟨.state (ipadOf H B key), .state (opadOf H B key), ipadOf H B key ++ w, outer, true, false⟩ := by
  obtain ⟨ipad, opad, inner, outer, marshaled, broken⟩ := h
  obtain ⟨rfl, rfl, ⟨rfl, rfl, rfl⟩ | ⟨rfl, rfl, rfl⟩⟩ := g
  · exact ⟨outer, .inl rfl⟩
  · exact ⟨outer, .inr rfl⟩

theorem sum_good (key w inp : Bytes) (h : Hmac) (g : Good H B key w h) :
    (h.sum H inp).2 = inp ++ hmacSpec H B key w ∧ Good H B key w (h.sum H inp).1 := by
  obtain ⟨outer, rfl | rfl⟩ := g.form
  · exact ⟨rfl, rfl, rfl, .inl ⟨rfl, rfl, rfl⟩⟩
  · exact ⟨rfl, rfl, rfl, .inr ⟨rfl, rfl, rfl⟩⟩

theorem reset_good (key w : Bytes) (h : Hmac) (g : Good H B key w h) : Good H B key [] (h.reset) := by
  obtain ⟨outer, rfl | rfl⟩ := g.form
  · exact ⟨rfl, (List.append_nil _).symm, .inr ⟨rfl, rfl, rfl⟩⟩
  · exact ⟨rfl, (List.append_nil _).symm, .inr ⟨rfl, rfl, rfl⟩⟩

/-- run a sequence of operations, collecting what each `Sum` returned together with what RFC 2104 prescribes for the
    data written since the last reset -/
def run : Hmac → Bytes → List HOp → List (Bytes × Bytes × Bytes)
  | _, _, [] => []
  | h, w, .write p :: r => run (h.write p) (w ++ p) r
  | h, w, .sum inp :: r => ((h.sum H inp).2, inp, w) :: run (h.sum H inp).1 w r
  | h, _, .reset :: r => run h.reset [] r

/-- every `Sum` in every operation sequence after an acquire returns `in ++ HMAC(key, data written since the last
    reset)`: for every chunking of the writes, every key length, every previous history of the pooled object -/
theorem sum_eq_spec (key : Bytes) (ops : List HOp) (h : Hmac) (w : Bytes) (g : Good H B key w h) :
    ∀ x ∈ run H h w ops, x.1 = x.2.1 ++ hmacSpec H B key x.2.2 := by
  induction ops generalizing h w with
  | nil => intro x hx; simp [run] at hx
  | cons op r ih =>
    cases op with
    | write p => exact ih _ _ (write_good H B key w p h g)
    | sum inp =>
      intro x hx
      simp only [run, List.mem_cons] at hx
      obtain ⟨s1, s2⟩ := sum_good H B key w inp h g
      rcases hx with rfl | hx
      · exact s1
      · exact ih _ _ s2 x hx
    | reset => exact ih _ _ (reset_good H B key w h g)

theorem acquire_then_ops (prev : Hmac) (key : Bytes) (ops : List HOp) :
    ∀ x ∈ run H (resetTo H B prev key) [] ops, x.1 = x.2.1 ++ hmacSpec H B key x.2.2 :=
  sum_eq_spec H B key ops _ [] (resetTo_establishes H B prev key)

/-- chunking is irrelevant -/
theorem write_append (h : Hmac) (a b : Bytes) : (h.write a).write b = h.write (a ++ b) := by
  simp [Hmac.write, List.append_assoc]

theorem hmacSpec_eq_rfc (hH : ∀ x, (H x).length ≤ B) (key msg : Bytes) :
    hmacSpec H B key msg = Spec.hmac H B key msg := by
  unfold hmacSpec Spec.hmac ipadOf opadOf mkPad zerosB
  by_cases hk : key.length > B
  · have : (H key).take B = H key := List.take_of_length_le (hH key)
    simp [hk, this]
  · have : key.take B = key := List.take_of_length_le (by omega)
    simp [hk, this]

-- non-vacuity: a marshaled object (after Reset) keyed with a long key is Good
example : Good H 4 [1, 2, 3, 4, 5] [] (Hmac.reset (resetTo H 4 (Hmac.new H 4 [9]) [1, 2, 3, 4, 5])) :=
  reset_good H 4 _ [] _ (resetTo_establishes H 4 _ _)

end Stun.C18
