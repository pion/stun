/-
  C04 — MESSAGE-INTEGRITY is computed and verified exactly as RFC 5389 §15.4.
  The MAC is a parameter `mac : key → message → tag`; theorems that need it assume only a 20-byte output. The driver
  instantiates it with Spec.hmacSHA1 (RFC 2104 / RFC 3174 written in Lean), which the correspondence compares with the
  library's pooled HMAC on every signed message. Collision resistance is not (and cannot be) a theorem: tamper
  detection is stated as "rejected iff the MAC over the covered span differs".
-/
import Stun.Proofs.CanonicalDecode
namespace Stun.C04
open Stun Stun.Msg Stun.Spec Stun.BuildProofs Stun.DecodeProofs

/-- `m` is a successfully decoded message: `p` is the RFC parse of its visible bytes and the struct holds it -/
structure DecodedAs (m : Msg) (p : Parsed) : Prop where
  cap : m.len ≤ m.mem.length
  parse : rfcParse m.raw = some p
  length : m.length = p.length
  attrs : m.attrs = p.attrs.map attrOfSpec

/-- the first attribute of type `t` in a parsed list -/
def firstOf (t : Nat) : List Attr → Option Attr
  | [] => none
  | a :: r => if a.typ = t then some a else firstOf t r

theorem firstOf_eq_find? (t : Nat) (as : List Attr) : firstOf t as = as.find? (·.typ == t) := by
  induction as with
  | nil => rfl
  | cons a r ih =>
    rw [firstOf, List.find?_cons, ih]
    by_cases h : a.typ = t
    · rw [if_pos h, beq_iff_eq.2 h]
    · rw [if_neg h, beq_false_of_ne h]

theorem firstOf_mem {t : Nat} {as : List Attr} {a : Attr} (h : firstOf t as = some a) : a ∈ as ∧ a.typ = t := by
  rw [firstOf_eq_find?] at h
  exact ⟨List.mem_of_find?_eq_some h, eq_of_beq (List.find?_some (p := fun x : Attr => x.typ == t) h)⟩

theorem firstOf_append_right (t : Nat) (l1 l2 : List Attr) (h : ∀ a ∈ l1, a.typ ≠ t) :
    firstOf t (l1 ++ l2) = firstOf t l2 := by
  rw [firstOf_eq_find?, firstOf_eq_find?, List.find?_append,
    List.find?_eq_none.2 (fun a ha hb => h a ha (eq_of_beq hb)), Option.none_or]

theorem sizeReduced_true {endp pos : Nat} {as : List Attr} (h : AChain endp pos as) :
    pos + sizeReducedAux true (as.map attrOfSpec) = endp := by
  induction as generalizing pos with
  | nil => exact h
  | cons a r ih =>
    have := ih h.2.2.2; have := h.1
    simp only [List.map_cons, sizeReducedAux, if_true, Bool.true_or, attrOfSpec, attributeHeaderSize, npvl_eq]
    omega

/-- the `sizeReduced` loop counts the bytes from the end of the first MESSAGE-INTEGRITY attribute (padded) to the end
    of the chain; nothing if there is none -/
theorem sizeReduced_false {endp pos : Nat} {as : List Attr} (h : AChain endp pos as) :
    match firstOf attrMessageIntegrity as with
    | none => sizeReducedAux false (as.map attrOfSpec) = 0
    | some a => a.off + a.length + pad4 a.length + sizeReducedAux false (as.map attrOfSpec) = endp := by
  induction as generalizing pos with
  | nil => rfl
  | cons a r ih =>
    rw [List.map_cons, sizeReducedAux, if_neg Bool.false_ne_true, Nat.zero_add, Bool.false_or, firstOf]
    by_cases ht : a.typ = attrMessageIntegrity
    · rw [if_pos ht, show (attrOfSpec a).typ == attrMessageIntegrity from beq_iff_eq.2 ht]
      exact sizeReduced_true h.2.2.2
    · rw [if_neg ht, show ((attrOfSpec a).typ == attrMessageIntegrity) = false from beq_false_of_ne ht]
      exact ih h.2.2.2

/-- overwrite the header length field of a byte string -/
def setLen (bs : Bytes) (n : Nat) : Bytes := writeAt bs 2 (put16 n)

theorem writeAt_lenField_self (l : Bytes) (h : 4 ≤ l.length) : writeAt l 2 (put16 (be16 (l.drop 2))) = l := by
  match l, h with
  | a :: b :: c :: d :: r, _ =>
    simp only [List.drop_succ_cons, List.drop_zero, be16, put16_u16]
    simp [writeAt]

/-- Go's uint32 `x - y` when it does not wrap -/
theorem w32_sub {x y : Nat} (hy : y ≤ x) (hx : x < 4294967296) : w32 (x + 4294967296 - y) = x - y := by
  unfold w32
  rw [Nat.sub_add_comm hy, Nat.add_mod_right, Nat.mod_eq_of_lt (Nat.lt_of_le_of_lt (Nat.sub_le x y) hx)]

/-- `Check` on a message whose first MESSAGE-INTEGRITY value is `val` and whose `Length`, cut back to end with that
    attribute, is `L`: the result is `m` itself but for bytes of the array outside `Raw`, and the verdict compares
    `val` with the MAC of the bytes before the attribute under the length field `L`. Nothing here speaks of parsing. -/
theorem integrityCheck_eq (mac : Bytes → Bytes → Bytes) (key : Bytes) (m : Msg) (val : Bytes) (L : Nat)
    (hget : m.get attrMessageIntegrity = some val) (hcap : m.len ≤ m.mem.length)
    (hL1 : 4 ≤ L) (hlen : 20 + m.length ≤ m.len) (hl : m.length < 65536)
    (hsr : sizeReducedAux false m.attrs + L = m.length) (hself : setLen m.raw m.length = m.raw) :
    ∃ mem', mem'.length = m.mem.length ∧ mem'.take m.len = m.raw ∧
      integrityCheck mac key m = ({ m with mem := mem' },
        if val == mac key ((setLen m.raw L).take (L - 4)) then .ok else .err .mismatch) := by
  unfold integrityCheck
  rw [hget]
  dsimp -zeta only
  extract_lets length sr m0 m1 start b expected m2 m3 m4
  have h4 : 4 ≤ m.len := by omega
  have hsl : sr ≤ m.length := hsr ▸ Nat.le_add_right sr L
  have hl' : m.length < 4294967296 := Nat.lt_trans hl (by decide)
  -- the first `WriteLength`: `Length` and the header field become `L`
  have e1 : m1 = { m with length := L, mem := writeAt m.mem 2 (put16 L) } := by
    have : w32 (m.length + 4294967296 - w32 sr) = L := by
      rw [show w32 sr = sr from Nat.mod_eq_of_lt (Nat.lt_of_le_of_lt hsl hl'), w32_sub hsl hl']
      exact Nat.sub_eq_of_eq_add' hsr.symm
    simp only [m1, m0, this]
    exact writeLength_eq (m := { m with length := L }) h4
  have hw : (writeAt m.mem 2 (put16 L)).length = m.mem.length := writeAt_length (Nat.le_trans h4 hcap)
  have r1 : (writeAt m.mem 2 (put16 L)).take m.len = setLen m.raw L := raw_writeAt (m := m) hcap h4
  -- the MAC is taken over all but the last 24 of the `L` declared bytes
  have hs : start = L - 4 := by
    simp only [start, e1, messageHeaderSize, attributeHeaderSize, messageIntegritySize]
    rw [w32_sub (Nat.add_le_add_left hL1 20) (by omega)]
    exact Nat.add_sub_add_left 20 L 4
  have hsm : L - 4 ≤ m.len := by omega
  have hb : b = (setLen m.raw L).take (L - 4) := by
    show m1.mem.take start = _
    rw [hs, e1, ← r1, List.take_take, Nat.min_eq_left hsm]
  rw [if_neg (by rw [hs, e1, hw]; exact Nat.not_lt.2 (Nat.le_trans hsm hcap))]
  -- the digest lands outside `Raw`
  obtain ⟨mem2, e2⟩ : ∃ mem2, m1.sumIntoSpare expected = { m1 with mem := mem2 } := ⟨_, sumIntoSpare_eq m1 expected⟩
  have hc := sumIntoSpare_cap m1 expected
  have ht := sumIntoSpare_take m1 expected
  rw [e2, e1] at hc ht
  dsimp only at hc ht
  rw [hw] at hc
  -- the second `WriteLength` puts `Length` back into struct and header
  have e4 : m4 = { m with mem := writeAt mem2 2 (put16 m.length) } := by
    show ({ m1.sumIntoSpare expected with length := m.length } : Msg).writeLength = _
    rw [e2, e1]; exact writeLength_eq (m := { m with mem := mem2 }) h4
  rw [e4]
  refine ⟨writeAt mem2 2 (put16 m.length), (writeAt_length (hc ▸ Nat.le_trans h4 hcap)).trans hc, ?_, by rw [← hb]⟩
  -- visible bytes: the header field went from `Length` to `L` and back
  refine (raw_writeAt (m := { m with mem := mem2 }) (hc ▸ hcap) h4).trans ?_
  show writeAt (mem2.take m.len) 2 (put16 m.length) = m.raw
  rw [ht, r1, setLen, writeAt_writeAt_same m.raw 2 (put16 L) (put16 m.length) rfl ((raw_length hcap).symm ▸ h4)]
  exact hself

/-- `m` after the integrity check, and its verdict: every decoded message, every key -/
theorem check_spec (mac : Bytes → Bytes → Bytes) (key : Bytes) (m : Msg) (p : Parsed) (h : DecodedAs m p) :
    (match firstOf attrMessageIntegrity p.attrs with
      | none => (integrityCheck mac key m).2 = .err .notFound
      | some a =>
        let E := a.off + a.length + pad4 a.length     -- end of the (padded) MESSAGE-INTEGRITY attribute
        (integrityCheck mac key m).2 =
          (if a.val == mac key ((setLen m.raw (E - 20)).take (E - 24)) then .ok else .err .mismatch)) ∧
    (integrityCheck mac key m).1.raw = m.raw ∧ (integrityCheck mac key m).1.length = m.length ∧
    (integrityCheck mac key m).1.attrs = m.attrs ∧ (integrityCheck mac key m).1.len = m.len := by
  have hget : m.get attrMessageIntegrity = ((firstOf attrMessageIntegrity p.attrs).map attrOfSpec).map (·.val) := by
    unfold Msg.get; rw [h.attrs, firstOf_eq_find?, List.find?_map]; rfl
  cases hf : firstOf attrMessageIntegrity p.attrs with
  | none =>
    rw [hf] at hget
    have : integrityCheck mac key m = (m, .err .notFound) := by unfold integrityCheck; rw [hget]; rfl
    rw [this]; exact ⟨rfl, rfl, rfl, rfl, rfl⟩
  | some a =>
    rw [hf] at hget
    obtain ⟨hsz, _, hplen, _⟩ := rfcParse_some h.parse
    have hch := rfcParse_chain h.parse
    rw [← h.length] at hplen hsz hch
    have hl : m.length < 65536 := hplen ▸ be16_lt _
    have hself : setLen m.raw m.length = m.raw := hplen ▸ writeAt_lenField_self m.raw (by omega)
    rw [raw_length h.cap] at hsz
    obtain ⟨hoff, hb, _⟩ := AChain_bounds hch (firstOf_mem hf).1
    have hsr := sizeReduced_false hch
    simp only [hf, ← h.attrs] at hsr
    have hE : 24 ≤ a.off + a.length + pad4 a.length := by omega
    dsimp only
    generalize a.off + a.length + pad4 a.length = E at hb hsr hE ⊢
    obtain ⟨mem', _, t, e⟩ := integrityCheck_eq mac key m a.val (E - 20) hget h.cap
      (by omega) hsz hl (by omega) hself
    rw [e, show E - 20 - 4 = E - 24 from Nat.sub_sub E 20 4]
    exact ⟨rfl, t, rfl, rfl, rfl⟩

/-- the verdict when the parse has a MESSAGE-INTEGRITY attribute: `check_spec` with the `match` resolved -/
theorem check_verdict (mac : Bytes → Bytes → Bytes) (key : Bytes) {m : Msg} {p : Parsed} (h : DecodedAs m p) {a : Attr}
    (hf : firstOf attrMessageIntegrity p.attrs = some a) : (integrityCheck mac key m).2 =
    if a.val == mac key ((setLen m.raw (a.off + a.length + pad4 a.length - 20)).take
      (a.off + a.length + pad4 a.length - 24)) then .ok else .err .mismatch := by
  have hs := (check_spec mac key m p h).1
  rw [hf] at hs; exact hs

/-- the property's "if and only if": with a 20-byte MAC function, the check succeeds iff the first
    MESSAGE-INTEGRITY attribute is 20 bytes long and equals the MAC of the bytes preceding that attribute with the
    header length rewritten to end at that attribute (`a.off` = offset of its value = bytes before it + 4) -/
theorem check_iff (mac : Bytes → Bytes → Bytes) (hmac : ∀ k x, (mac k x).length = 20) (key : Bytes)
    (m : Msg) (p : Parsed) (h : DecodedAs m p) (a : Attr) (hf : firstOf attrMessageIntegrity p.attrs = some a) :
    (integrityCheck mac key m).2 = .ok ↔
      a.length = 20 ∧ a.val = mac key ((setLen m.raw a.off).take (a.off - 4)) := by
  rw [check_verdict mac key h hf]
  have hvl : a.val.length = a.length := (AChain_bounds (rfcParse_chain h.parse) (firstOf_mem hf).1).2.2.1
  by_cases h20 : a.length = 20
  · have hE : a.off + a.length + pad4 a.length = a.off + 20 := by rw [h20]; rfl
    rw [hE, Nat.add_sub_cancel, show a.off + 20 - 24 = a.off - 4 from Nat.add_sub_add_right a.off 20 4]
    simp [h20]
  · -- a value of another length cannot equal a 20-byte MAC
    have hne : ∀ x, a.val ≠ mac key x := fun x heq => h20 (by rw [← hvl, heq, hmac])
    simp [hne, h20]

/-- the check never panics on a decoded message -/
theorem check_no_panic (mac : Bytes → Bytes → Bytes) (key : Bytes) (m : Msg) (p : Parsed) (h : DecodedAs m p) :
    (integrityCheck mac key m).2 ≠ .panic := by
  cases hf : firstOf attrMessageIntegrity p.attrs with
  | none => have hs := (check_spec mac key m p h).1; rw [hf] at hs; rw [hs]; exact nofun
  | some a => rw [check_verdict mac key h hf]; split <;> exact nofun

theorem check_pure (mac : Bytes → Bytes → Bytes) (key : Bytes) (m : Msg) (p : Parsed) (h : DecodedAs m p) :
    (integrityCheck mac key m).1.raw = m.raw ∧ (integrityCheck mac key m).1.length = m.length ∧
    (integrityCheck mac key m).1.attrs = m.attrs ∧ (integrityCheck mac key m).1.len = m.len :=
  (check_spec mac key m p h).2

/-- a different key is rejected whenever it yields a different MAC over the covered span; so is any change of the
    MAC value or of a covered byte that changes the MAC (collision resistance itself is not provable) -/
theorem wrong_mac_rejected (mac : Bytes → Bytes → Bytes) (key : Bytes) (m : Msg) (p : Parsed) (h : DecodedAs m p)
    (a : Attr) (hf : firstOf attrMessageIntegrity p.attrs = some a)
    (hne : a.val ≠ mac key ((setLen m.raw (a.off + a.length + pad4 a.length - 20)).take
              (a.off + a.length + pad4 a.length - 24))) :
    (integrityCheck mac key m).2 = .err .mismatch := by
  rw [check_verdict mac key h hf, if_neg (by simpa using hne)]

/-- the verdict does not depend on anything after the MESSAGE-INTEGRITY attribute: two decoded messages with the
    same first MESSAGE-INTEGRITY attribute and the same bytes before it get the same verdict -/
theorem check_ignores_suffix (mac : Bytes → Bytes → Bytes) (key : Bytes) (m1 m2 : Msg) (p1 p2 : Parsed)
    (h1 : DecodedAs m1 p1) (h2 : DecodedAs m2 p2) (a : Attr)
    (f1 : firstOf attrMessageIntegrity p1.attrs = some a) (f2 : firstOf attrMessageIntegrity p2.attrs = some a)
    (hpre : ∀ n, (setLen m1.raw n).take (a.off + a.length + pad4 a.length - 24)
               = (setLen m2.raw n).take (a.off + a.length + pad4 a.length - 24)) :
    (integrityCheck mac key m1).2 = (integrityCheck mac key m2).2 := by
  rw [check_verdict mac key h1 f1, check_verdict mac key h2 f2, hpre]

/-- what a receiver holds after decoding the raw bytes of a canonical message -/
theorem decodedAs_of_canonical (m b : Msg) (h : Canonical m) (hm : m.method < 4096) (hc : m.cls < 4) :
    DecodedAs (b.decodeFrom m.raw).1 ⟨m.method, m.cls, m.length, m.tid, attrsOf 20 (m.attrs.map wireOf)⟩ ∧
    (b.decodeFrom m.raw).1.raw = m.raw := by
  have hraw := setRaw_raw b m.raw
  have hp := canonical_rfcParse m h hm hc
  rw [decodeFrom_of_parse b hp]
  exact ⟨⟨setRaw_len_le b m.raw, hraw.symm ▸ hp, rfl, rfl⟩, hraw⟩

theorem setLen_canonical {m : Msg} (h : Canonical m) : setLen m.raw m.length = m.raw := by
  rw [h.raw, setLen, writeAt_append (by rw [headerL_length m _ h.tidLen rfl, put16_length]; decide),
    headerL_setLen m rfl rfl]

/-- a message signed by the library verifies under the same key — at the receiver, after decoding the signed bytes
    into any message object; for every canonical message without MESSAGE-INTEGRITY / FINGERPRINT, every key (short-term
    password bytes or the long-term MD5 key alike) and every 20-byte MAC function -/
theorem sign_then_check (mac : Bytes → Bytes → Bytes) (hmac : ∀ k x, (mac k x).length = 20) (key : Bytes)
    (m b : Msg) (h : Canonical m) (hm : m.method < 4096) (hc : m.cls < 4)
    (hfp : m.attrs.any (fun a => a.typ == attrFingerprint) = false)
    (hmi : ∀ a ∈ m.attrs, compat a.typ ≠ attrMessageIntegrity)
    (hfit : m.length + 24 < 65536) :
    (integrityCheck mac key (b.decodeFrom (integrityAddTo mac key m).1.raw).1).2 = .ok := by
  obtain ⟨_, hcan, hattrs, hmeth, hcls, htid⟩ := integrity_canonical mac hmac key m h hfp hfit
  generalize hv : mac key (headerL m (put16 (m.length + 24)) ++ body m.attrs) = v at hattrs
  generalize (integrityAddTo mac key m).1 = m' at *
  have hvl : v.length = 20 := by rw [← hv]; exact hmac _ _
  obtain ⟨hd, hraw⟩ := decodedAs_of_canonical m' b hcan (by rw [hmeth]; exact hm) (by rw [hcls]; exact hc)
  generalize (b.decodeFrom m'.raw).1 = d at *
  -- the first MESSAGE-INTEGRITY attribute of the parse is the appended one
  have hfirst : firstOf attrMessageIntegrity (attrsOf 20 (m'.attrs.map wireOf))
      = some ⟨attrMessageIntegrity, 20, v, 20 + m.length + 4⟩ := by
    rw [hattrs, List.map_append, attrsOf_append, firstOf_append_right]
    · have hlenm : (serialize (m.attrs.map wireOf)).length = m.length := h.length.symm
      simp [attrsOf, wireOf, firstOf, compat, attrMessageIntegrity, hlenm, hvl]
    · -- attributes of the old part come back with their (aliased) types
      intro a ha
      have := List.mem_map_of_mem (f := attrOfSpec) ha
      rw [attrsOf_wire m.attrs 20 h.attrs] at this
      obtain ⟨x, hx, e⟩ := List.mem_map.1 this
      exact fun ht => hmi x hx ((congrArg RawAttr.typ e).trans ht)
  have hl' : m'.length = m.length + 24 := by rw [length_appended h hcan hattrs, hvl]; rfl
  rw [check_iff mac hmac key d _ hd _ hfirst]
  refine ⟨rfl, ?_⟩
  -- the header length is already the one the check writes; before the attribute lies the signed text
  rw [hraw, Nat.add_sub_cancel, show 20 + m.length + 4 = m'.length by omega, setLen_canonical hcan,
    raw_before_last h hcan hattrs hmeth hcls htid, hl', hv]

end Stun.C04
