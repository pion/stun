/-
  C15 — Client.Close is final and honours connection ownership (L1 model; goroutine exit, data races and deadlocks
  are runtime facts observed by the harness, not theorems).
-/
import Stun.Proofs.ClientHistory
namespace Stun.C15
open Stun Stun.Client Stun.ClientProofs

/-- the first Close succeeds (nil or CloseErr); the only handler invocations it makes complete transactions in flight
    with ErrAgentClosed; it writes nothing; it closes the connection exactly once iff the client owns it; every
    later Close returns ErrClientClosed and does nothing -/
theorem close_once (c : Client) :
    (c.closed = false →
      (c.close).1.closed = true ∧ ((c.close).2.1 = none ∨ (c.close).2.1 = some .closeErr) ∧
      (∀ x ∈ (c.close).2.2, (∃ h id, x = COut.call h id .agentClosed) ∨ (x = COut.connClose ∧ c.closeConn = true)) ∧
      ((c.close).2.2.filter (fun x => x == COut.connClose)).length = (if c.closeConn then 1 else 0)) ∧
    (c.closed = true → c.close = (c, some .clientClosed, [])) := by
  refine ⟨fun hc => ⟨(close_flags c hc).1, ?_, close_outs c hc, ?_⟩, close_closed c⟩
  · rw [close_eq c hc]; dsimp only; split <;> simp
  · -- the callbacks do not close the connection; `Close` does, at the end, if the client owns it
    have hnocc : ((closeCallbacks c).2.filter (fun x => x == COut.connClose)).length = 0 := by
      rw [List.length_eq_zero_iff, List.filter_eq_nil_iff]
      intro x hx
      obtain ⟨_, _, rfl⟩ := closeCallbacks_calls c x hx
      simp
    rw [close_eq c hc]
    dsimp only
    rw [closeCallbacks_closeConn]
    split
    · rw [List.filter_append, List.length_append, hnocc]; rfl
    · exact hnocc

/-- after Close every Start and Indicate returns ErrClientClosed without writing -/
theorem after_close_rejects (c : Client) (hc : c.closed = true) (id : TID) (raw : Bytes) (h : Option Nat) :
    c.start id raw h = (c, some .clientClosed, []) := by
  cases h with
  | none => rw [start_none, if_pos hc]
  | some h =>
    have o := start_outcome c id raw h
    generalize c.start id raw (some h) = r at o ⊢
    cases o with
    | rejected _ hr =>
      rcases hr with ⟨_, rfl⟩ | ⟨hc', _⟩
      · rfl
      · rw [hc] at hc'; cases hc'
    | ok _ hc' | failed _ _ _ _ _ hc' => rw [hc] at hc'; cases hc'

/-- a closed client whose agent is closed produces no output at all for any operation: no handler invocation, no
    write, no second connection close -/
theorem no_output_after_close (c : Client) (hc : c.closed = true) (ha : c.agent.closed = true) (op : COp) :
    (c.step op).2.2 = [] ∧ (c.step op).1.closed = true ∧ (c.step op).1.agent.closed = true := by
  cases op with
  | start id raw h => simp only [Client.step, after_close_rejects c hc id raw h]; exact ⟨trivial, hc, ha⟩
  | deliver d =>
    rcases deliver_cases c d with e | ⟨_, e⟩ <;> rw [step_deliver, e]
    · exact ⟨rfl, hc, ha⟩
    · rcases deliverDecoded_cases c (readerMsg.readFrom d).1.tid (readerMsg.readFrom d).1.raw with e | ⟨hp, _⟩
      · rw [e]; exact ⟨rfl, hc, ha⟩
      · -- the closed agent refuses the datagram
        rw [show c.agent.process _ = _ from C13.after_close c.agent ha (.process _)] at hp; cases hp
  | tick t =>
    simp only [Client.step, tick_eq, show c.agent.collect t = _ from C13.after_close c.agent ha (.collect t)]
    exact ⟨rfl, hc, ha⟩
  | clock | failWrite | setRTO => exact ⟨rfl, hc, ha⟩
  | close => simp only [Client.step, close_closed c hc]; exact ⟨trivial, hc, ha⟩

/-- Close leaves the client closed with a closed agent — the hypothesis of `no_output_after_close` -/
theorem close_establishes (c : Client) (hc : c.closed = false) :
    (c.close).1.closed = true ∧ (c.close).1.agent.closed = true :=
  close_flags c hc

/-- finality for whole histories: from a closed client with a closed agent, *every* continuation — any number of
    Start, deliver, tick, clock, failWrite, SetRTO and Close operations in any order — emits nothing (no handler
    invocation, no write, no connection close) and leaves the client closed -/
theorem closed_forever (ops : List COp) : ∀ (c : Client), c.closed = true → c.agent.closed = true →
    allOuts (run c ops).2 = [] ∧ (run c ops).1.closed = true ∧ (run c ops).1.agent.closed = true := by
  induction ops with
  | nil => intro c hc ha; exact ⟨rfl, hc, ha⟩
  | cons op r ih =>
    intro c hc ha
    obtain ⟨o1, o2, o3⟩ := no_output_after_close c hc ha op
    obtain ⟨i1, i2, i3⟩ := ih (c.step op).1 o2 o3
    refine ⟨?_, i2, i3⟩
    simp only [run, allOuts, List.flatMap_cons, o1, List.nil_append]
    exact i1

/-- the property's history form: whatever happened before (`pre`), once Close has been called on an open client,
    the rest of the history (`post`, which may contain further Close calls) emits nothing; in particular the
    connection is closed at most once in the whole history and no handler runs after Close returned -/
theorem nothing_after_close (c : Client) (pre post : List COp) (hopen : (run c pre).1.closed = false) :
    allOuts (run (run c (pre ++ [.close])).1 post).2 = [] := by
  have e : (run c (pre ++ [.close])).1 = ((run c pre).1.close).1 := by
    rw [run_append]; rfl
  rw [e]
  obtain ⟨b1, b2⟩ := close_establishes (run c pre).1 hopen
  exact (closed_forever post _ b1 b2).1

/-- every Start after Close returns ErrClientClosed, at any later point of any history -/
theorem start_after_close_rejected (c : Client) (ops : List COp) (hc : c.closed = true) (ha : c.agent.closed = true)
    (id : TID) (raw : Bytes) (h : Option Nat) :
    ((run c ops).1.step (.start id raw h)).2.1 = some .clientClosed := by
  have hcl := (closed_forever ops c hc ha).2.1
  have e : (run c ops).1.step (.start id raw h) = ((run c ops).1, some .clientClosed, []) :=
    after_close_rejects _ hcl id raw h
  rw [e]

/-- in a history from an open client the connection is closed once if the client owns it and has been closed, and
    otherwise not at all -/
theorem run_connCloses (ops : List COp) (c : Client) (hi : TInv c) (hc : c.closed = false) :
    connCloses (allOuts (run c ops).2) = if c.closeConn && (run c ops).1.closed then 1 else 0 := by
  have m := run_moves (cl := true) ops c hi fun _ => rfl
  have e := m.connCloses_closeDue
  simp only [closeDue, m.closeConn, hc] at e
  generalize c.closeConn = a at e ⊢
  generalize (run c ops).1.closed = b at e ⊢
  cases a <;> cases b <;> simp at e ⊢ <;> omega

/-- the client is closed after a history exactly if it was before or the history has a `Close` -/
theorem run_closed (ops : List COp) (c : Client) (hi : TInv c) :
    ((∀ op ∈ ops, op ≠ .close) → (run c ops).1.closed = c.closed) ∧ (COp.close ∈ ops → (run c ops).1.closed = true) := by
  refine ⟨fun hno => (run_moves (cl := false) ops c hi fun h => absurd rfl (hno _ h)).closed.1 rfl, fun h => ?_⟩
  obtain ⟨a, b, rfl⟩ := List.append_of_mem h
  rw [show a ++ COp.close :: b = (a ++ [.close]) ++ b by simp, run_append, run_append]
  have hi' := run_tinv (a ++ [.close]) c hi
  rw [run_append] at hi'
  exact (run_moves (cl := true) b _ hi' fun _ => rfl).closed.2 (closed_after_close _)

/-- no operation other than Close ever closes the connection or changes the closed flag -/
theorem step_no_connClose (S) (c : Client) (hi : TInv c) (hf : FromStarts S c) (op : COp) (hop : op ≠ .close) :
    COut.connClose ∉ (c.step op).2.2 ∧ (c.step op).1.closed = c.closed := by
  have _ := hf   -- not used: where the entries come from plays no part
  have m := step_moves (cl := false) c hi op fun h => absurd h hop
  have hcl := m.closed.1 rfl
  refine ⟨fun hm => ?_, hcl⟩
  have e := m.connCloses_closeDue
  simp only [closeDue, m.closeConn, hcl, Nat.add_eq_right] at e
  simp only [connCloses, List.length_eq_zero_iff, List.filter_eq_nil_iff] at e
  exact absurd (e _ hm) (by simp)

/-- "the connection has been closed exactly once … (then never)", for whole histories: in every history of an open
    client — any operations, any number of Close calls anywhere — the connection is closed at most once, and not at
    all as long as no Close has been called -/
theorem conn_closed_at_most_once (ops : List COp) : ∀ (S) (c : Client), TInv c → FromStarts S c → c.closed = false →
    connCloses (allOuts (run c ops).2) ≤ 1 ∧
    ((∀ op ∈ ops, op ≠ .close) → connCloses (allOuts (run c ops).2) = 0) := by
  intro _ c hi _ hc
  rw [run_connCloses ops c hi hc]
  refine ⟨by split <;> omega, fun hno => ?_⟩
  rw [(run_closed ops c hi).1 hno, hc, Bool.and_false]; rfl

/-- the connection-ownership option never changes: no operation alters `closeConn` -/
theorem step_closeConn (S) (c : Client) (hi : TInv c) (hf : FromStarts S c) (op : COp) (hop : op ≠ .close) :
    (c.step op).1.closeConn = c.closeConn :=
  have _ := hf; have _ := hop   -- not used: `Close` does not change the option either
  (step_moves (cl := true) c hi op fun _ => rfl).closeConn

/-- "… unless WithNoConnClose was given (then never)", for whole histories: a client that does not own its
    connection never closes it, whatever operations and however many Close calls the history contains; a client that
    owns it closes it exactly once in every history that contains a Close -/
theorem conn_close_ownership (ops : List COp) : ∀ (S) (c : Client), TInv c → FromStarts S c → c.closed = false →
    (c.closeConn = false → connCloses (allOuts (run c ops).2) = 0) ∧
    (c.closeConn = true → COp.close ∈ ops → connCloses (allOuts (run c ops).2) = 1) := by
  intro _ c hi _ hc
  rw [run_connCloses ops c hi hc]
  exact ⟨fun h => by rw [h]; rfl, fun h hm => by rw [h, (run_closed ops c hi).2 hm]; rfl⟩

/-- the hypotheses are met by a newly created client, so the history theorems speak about every history a user can
    produce: for the default client, whatever is done, a history with a Close closes the connection exactly once -/
theorem new_client_closes_once (ops : List COp) (h : COp.close ∈ ops) (hd : ({} : Client).closeConn = true) :
    connCloses (allOuts (run ({} : Client) ops).2) = 1 :=
  (conn_close_ownership ops [] {} tinv_init (fromStarts_init _) rfl).2 hd h

end Stun.C15
