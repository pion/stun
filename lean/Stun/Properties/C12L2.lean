/-
  C12 at level L2: for every L2 history (blocking writes / agent registrations / first writes, responses processed
  meanwhile, releases with success or failure), whenever a handler is given a message,
  * the handler was registered by a `Start` of the history for exactly that transaction id (`l2_invocation_from_start`),
  * and the message is a datagram of the history carrying that id: the raw bytes handed to `deliverDecoded`, or the
    first 1024 bytes of a datagram the reader decoded successfully, whose decoded id is that id.
-/
import Stun.Proofs.ClientL2Msg
import Stun.Properties.C10L2
namespace Stun.C12L2
open Stun Stun.Client Stun.ClientProofs

theorem l2_message_is_datagram_of_same_id (ops : List COp2) (h : Nat) (id : TID) (raw : Bytes)
    (hm : COut.call h id (.msg raw) ∈ (({} : Client2).run ops).2) :
    (∃ raw0, (h, id, raw0) ∈ starts2Of ops) ∧ ∃ op ∈ ops, MsgSrc op id raw :=
  ⟨C10L2.l2_invocation_from_start ops h id (.msg raw) hm,
   run2_msg ops {} (by intro s hs; simp at hs) h id raw hm⟩

/-- non-vacuity: in the K1 history handler 1 is given the response, and the theorem names its source -/
example : COut.call 1 C10L2.id1 (.msg C10L2.resp1) ∈ (({} : Client2).run C10L2.k1History).2 := by decide +kernel

end Stun.C12L2
