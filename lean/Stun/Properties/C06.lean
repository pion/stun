/-
  C06 — typed attributes round-trip and use the RFC 5389 §15 wire formats.
  Spec encoders/decoders are in Stun/Spec/Attrs.lean (written from the RFC). For every valid value:
  (1) what the setter hands to Add is the RFC encoding, (2) an RFC decoder reads the encoding back (spec round trip),
  (3) the getter reads any RFC-encoded value correctly, (4) add → re-decode → Get returns the value.
-/
import Stun.Spec.Attrs
import Stun.Proofs.CanonicalDecode
import Stun.Proofs.Reads
namespace Stun.C06
open Stun Stun.Msg Stun.Spec Stun.BuildProofs

theorem xor_invol (a k : Bytes) (h : a.length ≤ k.length) : xorBytes (xorBytes a k) k = a := by
  unfold xorBytes
  induction a generalizing k with
  | nil => simp
  | cons x r ih =>
    cases k with
    | nil => simp at h
    | cons y s =>
      simp only [List.zipWith_cons_cons, List.cons.injEq]
      refine ⟨?_, ih s (by simpa using h)⟩
      rw [UInt8.xor_assoc, UInt8.xor_self, UInt8.xor_zero]

theorem xorBytes_length (a k : Bytes) (h : a.length ≤ k.length) : (xorBytes a k).length = a.length := by
  simp [xorBytes, List.length_zipWith]; omega

theorem xorKey_eq (tid : Bytes) : xorKey tid = put32 magicCookie ++ tid := rfl

/-- a valid address: 4 bytes, or 16 bytes that are not an IPv4-mapped IPv6 address -/
def PlainAddr (ip : Bytes) : Prop := ip.length = 4 ∨ (ip.length = 16 ∧ isIPv4 ip = false)

theorem addrFamily_plain (ip : Bytes) (h : PlainAddr ip) : addrFamily ip = some (familyOf ip, ip) := by
  unfold addrFamily familyOf
  rcases h with h | ⟨h, hv⟩
  · simp [h, familyIPv4]
  · simp [h, hv, familyIPv6]

/-- an IPv4-mapped IPv6 address is written as its 4-byte IPv4 form (RFC family 0x01) -/
theorem addrFamily_mapped (ip : Bytes) (h : ip.length = 16) (hv : isIPv4 ip = true) :
    addrFamily ip = some (1, (ip.drop 12).take 4) := by
  unfold addrFamily; simp [h, hv, familyIPv4]

/-- both family codes fit one byte -/
theorem put16_familyOf (ip : Bytes) : put16 (familyOf ip) = [0, UInt8.ofNat (familyOf ip)] := by
  unfold familyOf put16; split <;> rfl

theorem xor_add_eq_rfc (m : Msg) (attr : Nat) (ip : Bytes) (port : Nat) (h : PlainAddr ip) :
    xorAddToAs m attr ip port = (m.add attr (encXor m.tid ip port), none) := by
  unfold xorAddToAs; rw [addrFamily_plain ip h]
  simp only [encXor, xorKey_eq, xorBytes, put16_familyOf, show magicCookie >>> 16 = 0x2112 by decide]

theorem mapped_add_eq_rfc (m : Msg) (attr : Nat) (ip : Bytes) (port : Nat) (h : PlainAddr ip) :
    mappedAddToAs m attr ip port = (m.add attr (encMapped ip port), none) := by
  unfold mappedAddToAs; rw [addrFamily_plain ip h]
  simp only [encMapped, put16_familyOf]

theorem errorCode_add_eq_rfc (m : Msg) (code : Nat) (reason : Bytes) (h : reason.length ≤ 763) :
    errorCodeAddTo m code reason = (m.add attrErrorCode (encErrorCode code reason), none) := by
  unfold errorCodeAddTo checkOverflow
  have : reason.length + errorCodeReasonStart ≤ errorCodeReasonMaxB + errorCodeReasonStart := by
    simp only [errorCodeReasonMaxB]; omega
  simp [this, encErrorCode, errorCodeModulo]

theorem unknown_add_eq_rfc (m : Msg) (ts : List Nat) :
    unknownAddTo m ts = (m.add attrUnknownAttributes (encUnknown ts), none) := rfl

theorem text_add (m : Msg) (k : TextKind) (v : Bytes) (h : v.length ≤ k.limit) :
    textAddToAs m k.attr v k.limit = (m.add k.attr v, none) := by
  unfold textAddToAs checkOverflow; simp [h]

theorem xorKey_length {tid : Bytes} (htid : tid.length = 12) : (xorKey tid).length = 16 := by
  rw [xorKey, List.length_append, put32_length, htid]

theorem length_le_xorKey {ip tid : Bytes} (hlen : ip.length = 4 ∨ ip.length = 16) (htid : tid.length = 12) :
    ip.length ≤ (xorKey tid).length := by
  rw [xorKey_length htid]; omega

theorem family_byte {ip : Bytes} (hlen : ip.length = 4 ∨ ip.length = 16) :
    (UInt8.ofNat (familyOf ip) = 1 ∧ ip.length = 4) ∨ (UInt8.ofNat (familyOf ip) = 2 ∧ ip.length = 16) := by
  unfold familyOf; rcases hlen with h | h <;> simp [h]

theorem decXor_encXor (tid ip : Bytes) (port : Nat) (hlen : ip.length = 4 ∨ ip.length = 16) (hp : port < 65536)
    (htid : tid.length = 12) : decXor tid (encXor tid ip port) = some (ip, port) := by
  have hk := length_le_xorKey hlen htid
  have hzl := xorBytes_length ip (xorKey tid) hk
  have hx := xor_invol ip (xorKey tid) hk
  simp only [xorBytes] at hzl hx
  simp only [encXor, put16, List.cons_append, List.nil_append, decXor, hzl]
  rw [if_pos (family_byte hlen), hx, u16_ofNat (Nat.xor_lt_two_pow (n := 16) hp (by decide)), Nat.xor_assoc,
    Nat.xor_self, Nat.xor_zero]

theorem decMapped_encMapped (ip : Bytes) (port : Nat) (hlen : ip.length = 4 ∨ ip.length = 16) (hp : port < 65536) :
    decMapped (encMapped ip port) = some (ip, port) := by
  simp only [encMapped, put16, List.cons_append, List.nil_append, decMapped]
  rw [if_pos (family_byte hlen), u16_ofNat hp]

theorem decErrorCode_enc (code : Nat) (reason : Bytes) (hc : code < 25600) :
    decErrorCode (encErrorCode code reason) = some (code, reason) := by
  simp only [encErrorCode, List.cons_append, List.nil_append, decErrorCode, UInt8.toNat_ofNat']
  -- class and number of an error code fit their bytes
  have h1 : code / 100 < 256 := Nat.div_lt_of_lt_mul hc
  have h2 : code % 100 < 256 := by omega
  rw [Nat.mod_eq_of_lt h1, Nat.mod_eq_of_lt h2, Nat.div_add_mod']

theorem decUnknown_enc (ts : List Nat) (h : ∀ t ∈ ts, t < 65536) : decUnknown (encUnknown ts) = some ts := by
  induction ts with
  | nil => rfl
  | cons t r ih =>
    simp only [encUnknown, List.flatMap_cons, put16, List.cons_append, List.nil_append, decUnknown]
    have := ih (fun x hx => h x (List.mem_cons_of_mem _ hx))
    simp only [encUnknown] at this
    rw [this]
    simp [u16_ofNat (h t List.mem_cons_self)]

theorem be16_cons2 (a b : UInt8) (t : Bytes) : be16 (a :: b :: t) = u16 a b := rfl

theorem family_ok {ip : Bytes} (hlen : ip.length = 4 ∨ ip.length = 16) :
    ¬ (familyOf ip ≠ familyIPv6 ∧ familyOf ip ≠ familyIPv4) ∧
    (if familyOf ip = familyIPv6 then 16 else 4) = ip.length := by
  unfold familyOf familyIPv6 familyIPv4; rcases hlen with h | h <;> simp [h]

theorem addr_reads (ip rest : Bytes) {P : Nat} (hP : P < 65536) {v : Bytes}
    (hv : v = [0, UInt8.ofNat (familyOf ip)] ++ put16 P ++ rest) :
    v.length = 4 + rest.length ∧ rd16 v 0 = some (familyOf ip) ∧ rd16 v 2 = some P ∧ sliceFrom v 4 = some rest := by
  have hl : v.length = 4 + rest.length := by rw [hv]; simp only [List.length_append, put16_length]; rfl
  refine ⟨hl, ?_, ?_, ?_⟩
  · rw [rd16_eq (by omega), hv]
    show some (u16 0 (UInt8.ofNat (familyOf ip))) = _
    unfold familyOf; split <;> rfl
  · rw [rd16_eq (by omega), hv]; exact congrArg some (be16_put16_append P hP rest)
  · rw [sliceFrom_eq (by omega), hv]; rfl

theorem xorGet_rfc (m : Msg) (attr : Nat) (ip : Bytes) (port : Nat)
    (hlen : ip.length = 4 ∨ ip.length = 16) (hp : port < 65536) (htid : m.tid.length = 12)
    (hg : m.get attr = some (encXor m.tid ip port)) : xorGetFromAs m attr = .ok ⟨ip, port⟩ := by
  have hk := length_le_xorKey hlen htid
  have hzl := xorBytes_length ip (xorKey m.tid) hk
  obtain ⟨hl, r0, r2, s4⟩ := addr_reads ip (xorBytes ip (xorKey m.tid))
    (Nat.xor_lt_two_pow (n := 16) hp (by decide)) (v := encXor m.tid ip port) rfl
  obtain ⟨hfam, hip⟩ := family_ok hlen
  unfold xorGetFromAs
  rw [hg]
  simp only
  rw [if_neg (by omega)]              -- more than 4 bytes
  simp only [r0, r2, s4]              -- the three reads are in range
  rw [if_neg hfam, hip, hzl]          -- a family the getter knows; it selects the length of `ip`
  simp only [checkOverflow, Nat.le_refl, decide_true, if_false, not_true_eq_false]   -- no overflow
  -- address and port come back by xor-ing the same key again; nothing is left to pad
  rw [← xorKey_eq, xor_invol ip _ hk, show magicCookie >>> 16 = 0x2112 by decide, Nat.xor_assoc, Nat.xor_self,
    Nat.xor_zero]
  simp [Msg.zeros]

theorem mappedGet_rfc (m : Msg) (attr : Nat) (ip : Bytes) (port : Nat)
    (hlen : ip.length = 4 ∨ ip.length = 16) (hp : port < 65536)
    (hg : m.get attr = some (encMapped ip port)) : mappedGetFromAs m attr = .ok ⟨ip, port⟩ := by
  obtain ⟨hl, r0, r2, s4⟩ := addr_reads ip ip hp (v := encMapped ip port) rfl
  obtain ⟨hfam, hip⟩ := family_ok hlen
  unfold mappedGetFromAs
  rw [hg]
  simp only
  rw [if_neg (by omega)]              -- the same guards as in `xorGet_rfc`
  simp only [r0, r2, s4]
  rw [if_neg hfam, hip]
  simp [Msg.zeros]

theorem errorCodeGet_rfc (m : Msg) (code : Nat) (reason : Bytes) (hc : code < 25600)
    (hg : m.get attrErrorCode = some (encErrorCode code reason)) : errorCodeGetFrom m = .ok (code, reason) := by
  rw [errorCodeGetFrom_eq, hg]
  simp only [decErrorCode_enc code reason hc]

theorem encUnknown_length (l : List Nat) : (encUnknown l).length = 2 * l.length := by
  unfold encUnknown
  induction l with
  | nil => rfl
  | cons x r ih => simp only [List.flatMap_cons, List.length_append, put16_length, List.length_cons, ih]; omega

theorem unknownGet_rfc (m : Msg) (ts : List Nat) (h : ∀ t ∈ ts, t < 65536)
    (hg : m.get attrUnknownAttributes = some (encUnknown ts)) : unknownGetFrom m = .ok ts := by
  rw [unknownGetFrom_eq, hg]
  simp only
  rw [if_neg (by rw [encUnknown_length]; omega), decUnknown_enc ts h]

theorem textGet (m : Msg) (attr : Nat) (v : Bytes) (hg : m.get attr = some v) : textGetFromAs m attr = .ok v := by
  unfold textGetFromAs; rw [hg]

/-- after adding an attribute of a type not yet present, the re-decoded message's `Get` returns exactly that value -/
theorem get_after_add (m b : Msg) (t : Nat) (v : Bytes) (h : Canonical m) (hm : m.method < 4096) (hc : m.cls < 4)
    (ht : t < 65536) (hfit : m.length + 4 + v.length + pad4 v.length < 65536) (hne : t ≠ 0x8020)
    (hfresh : ∀ a ∈ m.attrs, compat a.typ ≠ t) :
    ((b.decodeFrom (m.add t v).raw).1).get t = some v ∧ ((b.decodeFrom (m.add t v).raw).1).tid = m.tid := by
  obtain ⟨r6, r7, r8, r5⟩ := add_fields m t v
  obtain ⟨_, _, _, _, d4, d5, _⟩ := canonical_decode (m.add t v) b (canonical_add h ht hfit)
    (by rw [r6]; exact hm) (by rw [r7]; exact hc)
  refine ⟨?_, by rw [d4, r8]⟩
  unfold Msg.get
  rw [d5, r5, find_alias_append hfresh (show compat t = t from if_neg hne)]; rfl

end Stun.C06
