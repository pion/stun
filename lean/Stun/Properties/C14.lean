/-
  C14 — the Agent is linearizable under concurrency (logic part).
  What Lean decides: if every method call consists of ONE atomic critical section that applies the sequential
  `Agent.step` to the shared table and fixes the call's return value and events (everything after it touches no shared
  state), then every concurrent execution is explained by the sequential order of the critical sections, and that
  order respects real time. With C13: of several concurrent terminators of one registration no two emit its
  terminal event.
  The premise is not assumed silently: the lock structure of every Agent method is regenerated from agent.go on every
  run (Stun/Gen/Generated.lean) and `Tie/Locks.lean` (`agentLocks`) proves that it has this shape.
  Not carried by the theorem (runtime truth): Go's mutex and memory model, the race detector's verdict, actual
  scheduling, deadlock freedom — observed by the `agent-conc` stream under `-race` with a linearizability checker.
-/
import Stun.Properties.C13
namespace Stun.C14
open Stun

/-- one completed method call of a concurrent execution: invocation time, time of its critical section, response
    time, and what it returned / emitted -/
structure Call where
  inv : Nat
  crit : Nat
  resp : Nat
  op : AOp
  ret : Option AErr
  evs : List AEvent

/-- timestamps of a call are ordered: invoked, then its critical section, then its response -/
def WellTimed (c : Call) : Prop := c.inv < c.crit ∧ c.crit < c.resp

/-- sequential specification run over a list of calls: every call's result is what `Agent.step` gives -/
def SeqExplains : Agent → List Call → Prop
  | _, [] => True
  | a, c :: r => (a.step c.op).2 = (c.ret, c.evs) ∧ SeqExplains (a.step c.op).1 r

/-- the premise, as established by the lock facts: the calls, listed in the order in which their critical sections
    happened, each applied `Agent.step` atomically to the shared state -/
structure SingleCritExecution (a0 : Agent) (calls : List Call) : Prop where
  timed : ∀ c ∈ calls, WellTimed c
  critOrder : calls.Pairwise (fun x y => x.crit < y.crit)
  atomic : SeqExplains a0 calls

/-- `a` precedes `b` in real time -/
def Precedes (a b : Call) : Prop := a.resp < b.inv

theorem realtime_respected (calls : List Call) (ht : ∀ c ∈ calls, WellTimed c)
    (ho : calls.Pairwise (fun x y => x.crit < y.crit)) : calls.Pairwise (fun x y => ¬ Precedes y x) :=
  ho.imp_of_mem fun {x y} hx hy hxy hp => by
    have := ht x hx
    have := ht y hy
    unfold Precedes WellTimed at *
    omega

/-- Linearizability: the order of the critical sections is a sequential order of all calls that explains every return
    value and event and never contradicts real-time order (if `b` finished before `a` began, `a` is not placed
    before `b`). -/
theorem single_crit_linearizable (a0 : Agent) (calls : List Call) (h : SingleCritExecution a0 calls) :
    SeqExplains a0 calls ∧ calls.Pairwise (fun x y => ¬ Precedes y x) :=
  ⟨h.atomic, realtime_respected calls h.timed h.critOrder⟩

theorem seqExplains_run (a0 : Agent) (calls : List Call) (h : SeqExplains a0 calls) :
    (a0.run (calls.map (·.op))).2 = calls.map (fun c => (c.op, c.ret, c.evs)) := by
  induction calls generalizing a0 with
  | nil => rfl
  | cons c r ih =>
    rw [List.map_cons, C13.run_cons, ih _ h.2, h.1]
    rfl

/-- "one terminator wins" as a conservation equation (`C13.exactly_one_terminal` along the order of the critical
    sections): successful Starts + registered before = terminal events + registered after — so one registration
    never receives two terminal events, whoever (Stop, Collect, Close, Process) raced for it -/
theorem one_terminator_wins (a0 : Agent) (hi : C13.Inv a0) (calls : List Call) (h : SingleCritExecution a0 calls)
    (id : TID) :
    C13.totalStarts id (calls.map (fun c => (c.op, c.ret, c.evs))) + C13.cnt id a0.table
      = C13.totalTerms id (calls.map (fun c => (c.op, c.ret, c.evs))) + C13.cnt id (a0.run (calls.map (·.op))).1.table := by
  have := (C13.exactly_one_terminal (calls.map (·.op)) a0 hi id).2
  rw [seqExplains_run a0 calls h.atomic] at this
  exact this

theorem seqExplains_prefix {a0 : Agent} {calls l : List Call} (h : SeqExplains a0 calls) (hl : l <+: calls) :
    SeqExplains a0 l := by
  obtain ⟨t, rfl⟩ := hl
  induction l generalizing a0 with
  | nil => trivial
  | cons c r ih => exact ⟨h.1, ih h.2⟩

/-- single-critical-section executions are prefix closed: what has happened up to any critical section is itself
    such an execution (so every statement about them holds at every moment, not only at the end) -/
theorem prefix_execution (a0 : Agent) (calls : List Call) (h : SingleCritExecution a0 calls) (n : Nat) :
    SingleCritExecution a0 (calls.take n) :=
  ⟨fun c hc => h.timed c (List.mem_of_mem_take hc), h.critOrder.sublist (List.take_sublist n calls),
   seqExplains_prefix h.atomic (List.take_prefix n calls)⟩

/-- concurrent executions of a NEW agent: at every moment and for every transaction id, the terminal events emitted
    so far never outnumber the successful Starts so far, whatever Stop/Process/Collect/Close calls raced — and they
    are equal as soon as a Close has had its critical section -/
theorem fresh_concurrent_terminals (calls : List Call) (h : SingleCritExecution {} calls) (n : Nat) (id : TID) :
    C13.totalTerms id ((calls.take n).map (fun c => (c.op, c.ret, c.evs)))
      ≤ C13.totalStarts id ((calls.take n).map (fun c => (c.op, c.ret, c.evs))) ∧
    ((Agent.run {} ((calls.take n).map (·.op))).1.closed = true →
      C13.totalStarts id ((calls.take n).map (fun c => (c.op, c.ret, c.evs)))
        = C13.totalTerms id ((calls.take n).map (fun c => (c.op, c.ret, c.evs)))) := by
  have hp := prefix_execution {} calls h n
  obtain ⟨f1, _, f3⟩ := C13.fresh_history ((calls.take n).map (·.op)) id
  rw [seqExplains_run {} (calls.take n) hp.atomic] at f1 f3
  exact ⟨f1, f3⟩

end Stun.C14
