/-
  C16 — ParseURI terminates safely on every string.
  `parseURI` (Model/URI.lean) transliterates uri.go as repaired for finding F4 (commit ab18656): the default-port retry
  carries a flag and is taken at most once. Lean accepts the definition by well-founded recursion on that flag
  (measure 1 → 0) — that acceptance *is* the proof that the recursion depth is at most one for every input; all helper
  functions are structural recursions on the input bytes (linear passes). The model has no panic / crash outcome: every
  result is `.ok` or `.error`.
  For the code before that repair (retry without a flag) the refutation below shows why it never returned on `[::1]x`.
-/
import Stun.Proofs.URIParse
namespace Stun.C16
open Stun Stun.URI

/-- totality: every input gives a URI or an error (the function is total by construction; stated for the record) -/
theorem parseURI_total (raw : Str) : (∃ u, parseURI true raw = .ok u) ∨ (∃ e, parseURI true raw = .error e) := by
  cases parseURI true raw with
  | ok u => exact Or.inl ⟨u, rfl⟩
  | error e => exact Or.inr ⟨e, rfl⟩

/-- the second pass never retries: a missing port there is final -/
theorem no_second_retry (raw : Str) (scheme opq q : Str) (sch : Scheme)
    (h1 : urlParse raw = .rootless scheme opq q) (h2 : newSchemeType scheme = some sch)
    (h3 : splitHostPort opq = .error .missingPort) :
    parseURI false raw = .error (.split .missingPort) := by
  rw [parseURI]; simp [h1, h2, h3]

/-- the first pass retries exactly with `scheme:opaque:<default port>[?query]` and the result of that single second
    pass is the result -/
theorem retry_once (raw : Str) (scheme opq q : Str) (sch : Scheme)
    (h1 : urlParse raw = .rootless scheme opq q) (h2 : newSchemeType scheme = some sch)
    (h3 : splitHostPort opq = .error .missingPort) :
    parseURI true raw = parseURI false (sch.str ++ [chr ':'] ++ opq ++ sch.defaultPort ++
        (if q ≠ [] then [chr '?'] ++ q else [])) := by
  rw [parseURI]; simp [h1, h2, h3]

theorem lastIndex_spec (sep : UInt8) (s : Str) (i : Nat) (h : lastIndex sep s = some i) : s[i]? = some sep :=
  URI.lastIndex_spec h

/-- why the code before the repair of F4 never returned on `stun:[::1]x`: however many default ports are appended, the
    address still "misses a port" (the ']' is not followed by the last ':'), so every retry retried again -/
theorem missing_port_forever (k : Nat) :
    splitHostPort (lit "[::1]x" ++ (List.replicate k (lit ":3478")).flatten) = .error .missingPort :=
  splitHostPort_bracket_no_colon (h := lit "::1") (t := chr 'x' :: _) (by decide) (by simp +decide)

end Stun.C16
