/-
  C13 — the Agent behaves as its transaction-table specification, for every sequence of calls.
  What each method does is in Proofs/Agent (`after_close`, `start_open` .. `close_open`); the statements about single
  calls follow from these. Per transaction id an account is kept: `cnt` and `terms` are filter lengths, read as
  `countP` through `cnt_eq_countP` / `terms_eq_countP` so that core's lemmas apply; a step of a consistent agent
  satisfies starts + registered before = terminal events + registered after (`step_spec`), hence so does every history.
-/
import Stun.Proofs.Agent
namespace Stun.C13
open Stun Stun.Agent

/-- number of table entries for `id` -/
def cnt (id : TID) (l : List (TID × Nat)) : Nat := (l.filter (fun p => p.1 == id)).length

def keys (a : Agent) : List TID := a.table.map (·.1)

/-- table invariant: no transaction id is registered twice; a closed agent has an empty table -/
structure Inv (a : Agent) : Prop where
  nodup : (keys a).Nodup
  closedEmpty : a.closed = true → a.table = []

def isTerminal : EvKind → Bool
  | .stopped | .timeout | .closed => true
  | .msg r => r

/-- number of terminal events for `id` in an event list (a Process of a registered id ends it too) -/
def terms (id : TID) (evs : List AEvent) : Nat := (evs.filter (fun e => e.id == id && isTerminal e.kind)).length

/-- 1 if this step is a successful `Start id` -/
def startInc (id : TID) (op : AOp) (e : Option AErr) : Nat :=
  match op, e with
  | .start id' _, none => if id' == id then 1 else 0
  | _, _ => 0

def totalStarts (id : TID) (tr : List (AOp × Option AErr × List AEvent)) : Nat :=
  (tr.map (fun x => startInc id x.1 x.2.1)).sum
def totalTerms (id : TID) (tr : List (AOp × Option AErr × List AEvent)) : Nat :=
  (tr.map (fun x => terms id x.2.2)).sum

/-- Start fails exactly for a closed agent or a duplicate id -/
theorem start_ok_iff (a : Agent) (id : TID) (d : Nat) :
    (a.start id d).2 = none ↔ a.closed = false ∧ a.has id = false := by
  unfold Agent.start
  by_cases hc : a.closed = true
  · simp [hc]
  · by_cases hh : a.has id = true <;> simp [hc, hh]

/-- Stop emits exactly one `stopped` event for a registered id and reports not-exists otherwise -/
theorem stop_spec (a : Agent) (hc : a.closed = false) (id : TID) :
    (a.has id = true → (a.stop id).2 = (none, [⟨a.hgen, id, .stopped⟩])) ∧
    (a.has id = false → (a.stop id).2 = (some .notExists, [])) := by
  rw [stop_open a hc]
  exact ⟨fun hh => by rw [hh]; rfl, fun hh => by rw [hh]; rfl⟩

/-- Process always emits the message and unregisters the id -/
theorem process_spec (a : Agent) (hc : a.closed = false) (id : TID) :
    (a.process id).2.1 = none ∧ (∃ r, (a.process id).2.2 = [⟨a.hgen, id, .msg r⟩]) ∧ (a.process id).1.has id = false := by
  rw [process_open a hc]
  refine ⟨rfl, ⟨_, rfl⟩, ?_⟩
  simp [Agent.has, Agent.del]

theorem filter_split {α} (p q : α → Bool) (l : List α) (h : ∀ x, p x = true → q x = true) :
    (l.filter p ++ (l.filter (fun x => !p x)).filter q).Perm (l.filter q) := by
  have := (List.filter_append_perm p l).filter q
  rwa [List.filter_append, List.filter_eq_self.mpr (fun x hx => h x (List.mem_filter.mp hx).2)] at this

/-- two `Collect`s report, together, exactly what one `Collect` at the later time reports (as a multiset: the events
    of the first call come first), and leave the same table: ticks of a collector may be split, merged or - being
    single critical sections (C14) - overlap, without any transaction being reported twice or not at all -/
theorem collect_twice (a : Agent) (t1 t2 : Nat) (h : t1 ≤ t2) :
    ((a.collect t1).1.collect t2).1 = (a.collect t2).1 ∧
    List.Perm ((a.collect t1).2.2 ++ ((a.collect t1).1.collect t2).2.2) (a.collect t2).2.2 := by
  cases hc : a.closed with
  | true => simp [Agent.collect, hc]
  | false =>
    have hc1 : (a.collect t1).1.closed = false := by rw [collect_open a hc]; exact hc
    rw [collect_open _ hc1, collect_open a hc t1, collect_open a hc t2]
    simp only [decide_not]
    constructor
    · congr 1
      rw [List.filter_filter]
      exact List.filter_congr (fun p _ => by simp; omega)
    · -- gone(t2) splits into gone(t1) and the part of the rest that is < t2
      rw [← List.map_append]
      exact (filter_split _ _ _ (fun p hp => by simp at hp ⊢; omega)).map _

/-- Close is final for whole histories: from a closed agent every call of every continuation returns ErrAgentClosed,
    emits no event and leaves the state as it is -/
theorem closed_forever (ops : List AOp) (a : Agent) (hc : a.closed = true) :
    (a.run ops).1 = a ∧ ∀ x ∈ (a.run ops).2, x.2 = (some AErr.closed, []) := by
  induction ops with
  | nil => exact ⟨rfl, fun _ hx => nomatch hx⟩
  | cons op r ih =>
    rw [run_cons, after_close a hc op]
    exact ⟨ih.1, List.forall_mem_cons.mpr ⟨rfl, ih.2⟩⟩

theorem cnt_eq_countP (id : TID) (l : List (TID × Nat)) : cnt id l = l.countP (·.1 == id) :=
  List.countP_eq_length_filter.symm

theorem cnt_eq_count (a : Agent) (id : TID) : cnt id a.table = (keys a).count id := by
  rw [cnt_eq_countP, keys, List.count_eq_countP, List.countP_map]; rfl

theorem cnt_eq_has (a : Agent) (h : Inv a) (id : TID) : cnt id a.table = if a.has id then 1 else 0 := by
  rw [cnt_eq_count, h.nodup.count]
  simp only [ClientProofs.has_iff]
  rfl  -- `keys` here and `akeys` there are the same function

theorem cnt_filter_ne (l : List (TID × Nat)) (id id' : TID) :
    cnt id (l.filter (fun p => p.1 != id')) = if id' = id then 0 else cnt id l := by
  rw [cnt_eq_countP, cnt_eq_countP, List.countP_filter]
  split
  · next h => subst h; exact List.countP_eq_zero.mpr (fun p _ => by simp)
  · next h => exact List.countP_congr (fun p _ => by simp; rintro rfl; exact Ne.symm h)

theorem cnt_del (a : Agent) (h : Inv a) (id id' : TID) :
    cnt id a.table = (if id' == id && a.has id' then 1 else 0) + cnt id (a.del id').table := by
  show _ = _ + cnt id (a.table.filter _)
  rw [cnt_filter_ne]
  by_cases hid : id' = id
  · subst hid; rw [cnt_eq_has a h]; simp
  · simp [hid]

theorem terms_eq_countP (id : TID) (evs : List AEvent) :
    terms id evs = evs.countP (fun e => e.id == id && isTerminal e.kind) := List.countP_eq_length_filter.symm

theorem terms_nil (id : TID) : terms id [] = 0 := rfl

theorem terms_single (id : TID) (g : Nat) (id' : TID) (k : EvKind) :
    terms id [⟨g, id', k⟩] = if id' == id && isTerminal k then 1 else 0 := by
  rw [terms_eq_countP, List.countP_singleton]

theorem terms_map (l : List (TID × Nat)) (id : TID) (g : Nat) (k : EvKind) (hk : isTerminal k = true) :
    terms id (l.map (fun p => (⟨g, p.1, k⟩ : AEvent))) = cnt id l := by
  rw [cnt_eq_countP, terms_eq_countP, List.countP_map]
  exact List.countP_congr (fun p _ => by simp [hk])

theorem inv_init : Inv {} := ⟨List.nodup_nil, fun _ => rfl⟩

theorem Inv.part {a a' : Agent} (h : Inv a) (hs : a'.table.Sublist a.table) (hc : a'.closed = false) : Inv a' :=
  ⟨h.nodup.sublist (hs.map _), fun h' => by rw [hc] at h'; cases h'⟩

theorem step_spec (a : Agent) (h : Inv a) (op : AOp) :
    Inv (a.step op).1 ∧
    ∀ id, startInc id op (a.step op).2.1 + cnt id a.table = terms id (a.step op).2.2 + cnt id (a.step op).1.table := by
  cases hc : a.closed with
  | true =>
    rw [after_close a hc op]
    exact ⟨h, fun id => by cases op <;> rfl⟩
  | false =>
  cases op with
  | start id' d =>
    simp only [Agent.step]
    cases hh : a.has id' with
    | true =>
      rw [start_open a hc, hh, if_pos rfl]
      exact ⟨h, fun id => rfl⟩
    | false =>
      rw [start_open a hc, hh, if_neg Bool.false_ne_true]
      have hn : id' ∉ keys a := fun hm => by rw [(ClientProofs.has_iff a id').mpr hm] at hh; cases hh
      refine ⟨⟨?_, fun hc' => by rw [hc] at hc'; cases hc'⟩, fun id => ?_⟩
      · show ((a.table ++ [(id', d)]).map (·.1)).Nodup
        rw [List.map_append]
        exact (List.perm_append_singleton id' (keys a)).nodup_iff.mpr (List.nodup_cons.mpr ⟨hn, h.nodup⟩)
      · simp only [startInc, terms_nil, cnt_eq_countP, List.countP_append, List.countP_singleton]
        omega
  | stop id' =>
    -- this case and `process` below: the id is unregistered, and that was announced by a terminal event exactly if
    -- it was registered; `cnt_del` is that sentence about `cnt`
    simp only [Agent.step]
    rw [stop_open a hc]
    refine ⟨h.part List.filter_sublist hc, fun id => ?_⟩
    simp only [startInc, Nat.zero_add]
    rw [cnt_del a h id id']
    cases a.has id' with
    | true => rw [if_pos rfl, terms_single]; rfl
    | false => rw [if_neg Bool.false_ne_true, Bool.and_false]; rfl
  | process id' =>
    simp only [Agent.step]
    rw [process_open a hc]
    refine ⟨h.part List.filter_sublist hc, fun id => ?_⟩
    simp only [startInc, Nat.zero_add]
    rw [cnt_del a h id id', terms_single]
    rfl
  | collect t =>
    simp only [Agent.step]
    rw [collect_open a hc]
    refine ⟨h.part List.filter_sublist hc, fun id => ?_⟩
    simp only [startInc, Nat.zero_add, decide_not]
    rw [terms_map _ _ _ _ rfl]
    simp only [cnt_eq_countP]
    exact List.countP_eq_countP_filter_add a.table _ _
  | setHandler =>
    simp only [Agent.step]
    rw [setHandler_open a hc]
    exact ⟨h.part (List.Sublist.refl _) hc, fun id => rfl⟩
  | close =>
    simp only [Agent.step]
    rw [close_open a hc]
    refine ⟨⟨List.nodup_nil, fun _ => rfl⟩, fun id => ?_⟩
    simp only [startInc, Nat.zero_add]
    rw [terms_map _ _ _ _ rfl]
    rfl

/-- A conservation equation, for every history from any consistent state and every transaction id:
    successful Starts + registered at the beginning = terminal events + still registered at the end.
    "Exactly one" is read off it: it holds for every prefix of the history too, and a consistent table holds an id at
    most once (`cnt_eq_has`), so a registration gets at most one terminal event, and exactly one once the id is no
    longer registered. -/
theorem exactly_one_terminal (ops : List AOp) (a : Agent) (h : Inv a) (id : TID) :
    Inv (a.run ops).1 ∧
    totalStarts id (a.run ops).2 + cnt id a.table = totalTerms id (a.run ops).2 + cnt id (a.run ops).1.table := by
  induction ops generalizing a with
  | nil => exact ⟨h, rfl⟩
  | cons op r ih =>
    obtain ⟨hi, hs⟩ := step_spec a h op
    obtain ⟨hi', hr⟩ := ih _ hi
    have := hs id
    rw [run_cons]
    refine ⟨hi', ?_⟩
    simp only [totalStarts, totalTerms, List.map_cons, List.sum_cons] at hr ⊢
    omega

-- non-vacuity: a 5-call history with a timeout, a stop and a close
example : (({} : Agent).run [.start [1] 10, .start [2] 20, .collect 15, .stop [2], .close]).2.map (fun x => x.2.2.length)
    = [0, 0, 1, 1, 0] := by decide

/-- the same accounting for the histories a user sees — those of a freshly created agent: at every point no
    transaction id has received more terminal events than it had successful Starts, the difference is 1 exactly
    while it is registered, and once the agent is closed every successful Start has had exactly one terminal event -/
theorem fresh_history (ops : List AOp) (id : TID) :
    totalTerms id (Agent.run {} ops).2 ≤ totalStarts id (Agent.run {} ops).2 ∧
    totalStarts id (Agent.run {} ops).2 = totalTerms id (Agent.run {} ops).2 + cnt id (Agent.run {} ops).1.table ∧
    ((Agent.run {} ops).1.closed = true → totalStarts id (Agent.run {} ops).2 = totalTerms id (Agent.run {} ops).2) := by
  obtain ⟨hi, he⟩ := exactly_one_terminal ops {} inv_init id
  rw [show cnt id ({} : Agent).table = 0 from rfl, Nat.add_zero] at he
  refine ⟨by omega, he, fun hc => ?_⟩
  rw [hi.closedEmpty hc] at he
  exact he

end Stun.C13
