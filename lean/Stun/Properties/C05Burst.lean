/-
  C05 (continued) — CRC-32 detects every single-bit flip and every burst of up to 32 bits, proved from first
  principles for the bit-serial specification (no appeal to polynomial algebra): the LFSR step is linear and
  injective; if two runs that started to differ at some bit ended in the same state n ≤ 31 bits later, the
  difference right after the first differing bit would be below 2^n — but it is the generator polynomial, whose top
  bit is set. Kernel axioms only.
-/
import Stun.Spec.CRC32
import Stun.Properties.C05
namespace Stun.C05
open Stun Stun.Spec

/-- the LFSR step is linear over GF(2) -/
theorem crcStep_xor (a b : BitVec 32) : crcStep (a ^^^ b) = crcStep a ^^^ crcStep b := by
  unfold crcStep
  rw [BitVec.getLsbD_xor, BitVec.ushiftRight_xor_distrib]
  -- by the two low bits; with both clear `simp` is done, with one set the polynomial is xor-ed in on both sides
  cases a.getLsbD 0 <;> cases b.getLsbD 0 <;> simp
  · ac_rfl
  · ac_rfl
  · -- both set: the polynomial cancels
    rw [show ((a >>> 1) ^^^ crcPoly) ^^^ ((b >>> 1) ^^^ crcPoly) = (a >>> 1) ^^^ (b >>> 1) ^^^ (crcPoly ^^^ crcPoly) by
      ac_rfl, BitVec.xor_self, BitVec.xor_zero]

theorem crcStep_zero : crcStep 0#32 = 0#32 := by decide

theorem poly_msb : crcPoly.getLsbD 31 = true := by decide

theorem shr1_msb (z : BitVec 32) : (z >>> 1).getLsbD 31 = false := by
  simp

theorem ge_of_msb (x : BitVec 32) (h : x.getLsbD 31 = true) : 2 ^ 31 ≤ x.toNat := by
  have : x.toNat.testBit 31 = true := by simpa [BitVec.getLsbD] using h
  exact Nat.ge_two_pow_of_testBit this

def bitv (b : Bool) : BitVec 32 := if b then 1#32 else 0#32

theorem xor_bit_lt (z : BitVec 32) (b : Bool) (k : Nat) (hk : 1 ≤ k) (h : (z ^^^ bitv b).toNat < 2 ^ k) :
    z.toNat < 2 ^ k := by
  have hb : (bitv b).toNat < 2 ^ k := by
    have : (bitv b).toNat ≤ 1 := by cases b <;> decide
    exact Nat.lt_of_le_of_lt this (Nat.one_lt_two_pow (by omega))
  have := Nat.xor_lt_two_pow h hb   -- z = (z ^^^ bit) ^^^ bit, both below 2 ^ k
  rwa [← BitVec.toNat_xor, BitVec.xor_assoc, BitVec.xor_self, BitVec.xor_zero] at this

theorem crcBit_diff (x y : BitVec 32) (a b : Bool) :
    crcBit x a ^^^ crcBit y b = crcStep ((x ^^^ y) ^^^ (bitv a ^^^ bitv b)) := by
  show crcStep (x ^^^ bitv a) ^^^ crcStep (y ^^^ bitv b) = _
  rw [← crcStep_xor]
  congr 1; ac_rfl

theorem bitv_xor (a b : Bool) : bitv a ^^^ bitv b = bitv (a ^^ b) := by
  cases a <;> cases b <;> decide

/-- backward step: if the state after a shift is small, the state before was small (the feedback would set bit 31) -/
theorem crcStep_back (z : BitVec 32) (j : Nat) (hj : j ≤ 31) (h : (crcStep z).toNat < 2 ^ j) : z.toNat < 2 ^ (j + 1) := by
  unfold crcStep at h
  cases hl : z.getLsbD 0 with
  | false =>
    simp only [hl, Bool.false_eq_true, if_false] at h
    rw [BitVec.toNat_ushiftRight, Nat.shiftRight_eq_div_pow] at h
    rw [Nat.pow_succ]; omega
  | true =>
    simp only [hl, if_true] at h
    have hm : ((z >>> 1) ^^^ crcPoly).getLsbD 31 = true := by
      rw [BitVec.getLsbD_xor, shr1_msb, poly_msb]; rfl
    have := ge_of_msb _ hm
    have : 2 ^ j ≤ 2 ^ 31 := Nat.pow_le_pow_right (by decide) hj
    omega

/-- if two runs end in the same state after `n ≤ 32` further bits each, their states differed by less than 2^n -/
theorem diff_small : ∀ (r1 r2 : List Bool) (x y : BitVec 32), r1.length = r2.length → r1.length ≤ 32 →
    crcBits x r1 = crcBits y r2 → (x ^^^ y).toNat < 2 ^ r1.length
  | [], [], x, y, _, _, h => by rw [show x = y from h, BitVec.xor_self]; decide
  | a :: r1, b :: r2, x, y, hl, hn, h => by
    have hrec := diff_small r1 r2 (crcBit x a) (crcBit y b) (Nat.succ.inj hl) (Nat.le_of_succ_le hn) h
    rw [crcBit_diff, bitv_xor] at hrec
    exact xor_bit_lt _ _ _ (Nat.succ_pos _) (crcStep_back _ _ (Nat.le_of_succ_le_succ hn) hrec)

theorem crcStep_eq_zero (z : BitVec 32) (h : crcStep z = 0#32) : z = 0#32 := by
  have h0 : (crcStep z).toNat < 2 ^ 0 := by rw [h]; decide
  have h1 := crcStep_back z 0 (by decide) h0
  -- z < 2: z = 0 or z = 1; crcStep 1 = poly ≠ 0
  have : z.toNat = 0 ∨ z.toNat = 1 := by omega
  rcases this with hz | hz
  · exact BitVec.eq_of_toNat_eq (by simpa using hz)
  · have : z = 1#32 := BitVec.eq_of_toNat_eq (by simpa using hz)
    subst this
    exact absurd h (by decide)

theorem crcStep_inj (a b : BitVec 32) (h : crcStep a = crcStep b) : a = b := by
  have : crcStep (a ^^^ b) = 0#32 := by rw [crcStep_xor, h, BitVec.xor_self]
  exact BitVec.xor_eq_zero_iff.mp (crcStep_eq_zero _ this)

theorem crcBits_inj (bits : List Bool) (x y : BitVec 32) (h : crcBits x bits = crcBits y bits) : x = y := by
  induction bits generalizing x y with
  | nil => exact h
  | cons b r ih =>
    have : crcBit x b = crcBit y b := ih _ _ h
    exact (BitVec.xor_left_inj _).mp (crcStep_inj _ _ this)

theorem crcBits_append (c : BitVec 32) (a b : List Bool) : crcBits c (a ++ b) = crcBits (crcBits c a) b :=
  List.foldl_append ..

theorem crcBits_window_inj : ∀ (w1 w2 : List Bool) (s : BitVec 32), w1.length = w2.length → w1.length ≤ 32 →
    crcBits s w1 = crcBits s w2 → w1 = w2
  | [], [], _, _, _, _ => rfl
  | a :: r1, b :: r2, s, hl, hn, h => by
    have hab : a = b := by
      -- otherwise the two states now differ by the polynomial, whose top bit is set: `diff_small` forbids it
      apply Decidable.byContradiction; intro hab
      have hsmall := diff_small r1 r2 (crcBit s a) (crcBit s b) (Nat.succ.inj hl) (Nat.le_of_succ_le hn) h
      rw [crcBit_diff, BitVec.xor_self, BitVec.zero_xor, bitv_xor, show (a ^^ b) = true from bne_iff_ne.mpr hab,
        show crcStep (bitv true) = crcPoly by decide] at hsmall
      have := ge_of_msb _ poly_msb
      have : 2 ^ r1.length ≤ 2 ^ 31 := Nat.pow_le_pow_right (by decide) (Nat.le_of_succ_le_succ hn)
      omega
    subst hab
    rw [crcBits_window_inj r1 r2 (crcBit s a) (Nat.succ.inj hl) (Nat.le_of_succ_le hn) h]

/-- CRC-32 burst detection on bit strings: two messages that agree outside a window of at most 32 consecutive bits
    (in the order the CRC consumes them) and differ inside it never have the same CRC state -/
theorem crcBits_burst (c : BitVec 32) (pre suf : List Bool) :
    ∀ (w1 w2 : List Bool), w1.length = w2.length → w1.length ≤ 32 → w1 ≠ w2 →
      crcBits c (pre ++ w1 ++ suf) ≠ crcBits c (pre ++ w2 ++ suf) := by
  intro w1 w2 hl hn hne heq
  rw [crcBits_append, crcBits_append, crcBits_append, crcBits_append] at heq
  exact hne (crcBits_window_inj w1 w2 _ hl hn (crcBits_inj suf _ _ heq))

theorem crcUpdate_bits (c : BitVec 32) (bs : Bytes) : crcUpdate c bs = crcBits c (bitsOf bs) := by
  induction bs generalizing c with
  | nil => rfl
  | cons b r ih =>
    simp only [crcUpdate, List.foldl_cons, bitsOf, List.flatMap_cons]
    rw [crcBits_append]
    exact ih _

/-- two byte strings agree outside a window of at most 32 consecutive bits (CRC bit order: least significant bit of
    each byte first) and differ inside it -/
def BurstDiff (x y : Bytes) : Prop :=
  ∃ pre suf w1 w2, bitsOf x = pre ++ w1 ++ suf ∧ bitsOf y = pre ++ w2 ++ suf ∧ w1.length = w2.length ∧
    w1.length ≤ 32 ∧ w1 ≠ w2

/-- CRC-32 detects every burst of up to 32 bits (in particular every single-bit flip) -/
theorem crc32_burst (x y : Bytes) (h : BurstDiff x y) : crc32 x ≠ crc32 y := by
  obtain ⟨pre, suf, w1, w2, hx, hy, hl, hn, hne⟩ := h
  intro heq
  unfold crc32 at heq
  have h1 := BitVec.eq_of_toNat_eq heq
  have h2 := (BitVec.xor_left_inj _).mp h1
  rw [crcUpdate_bits, crcUpdate_bits, hx, hy] at h2
  exact crcBits_burst _ pre suf w1 w2 hl hn hne h2

/-- a single flipped bit is a burst -/
theorem singleBit_burst (pre suf : List Bool) (b : Bool) (x y : Bytes)
    (hx : bitsOf x = pre ++ [b] ++ suf) (hy : bitsOf y = pre ++ [!b] ++ suf) : BurstDiff x y :=
  ⟨pre, suf, [b], [!b], hx, hy, rfl, by simp, by cases b <;> simp⟩

open Stun.Msg in
/-- Corruption confined to the bytes covered by the fingerprint: if the message a receiver holds has the same
    trailing FINGERPRINT attribute (same value `v` = CRC of the original covered bytes `S`, xor 0x5354554e) but its
    covered bytes `S'` differ from `S` by a single bit or any burst of up to 32 bits, the fingerprint check fails. -/
theorem fp_detects_burst_in_covered (m : Msg) (S S' : Bytes) (hb : BurstDiff S S')
    (hlen : 8 ≤ m.len) (hcov : m.raw.take (m.len - 8) = S')
    (hget : m.get attrFingerprint = some (put32 (crc32 S ^^^ 0x5354554e))) :
    fingerprintCheck m ≠ .ok := by
  intro hok
  obtain ⟨b, hb1, _, hb3⟩ := (fp_check_iff m hlen).mp hok
  rw [hget] at hb1
  simp only [Option.some.injEq] at hb1; subst hb1
  rw [be32_put32 (crc32 S ^^^ 0x5354554e) (fingerprintValue_lt S), hcov] at hb3
  have : crc32 S = crc32 S' := by
    have := congrArg (· ^^^ 0x5354554e) hb3
    simp only [Nat.xor_assoc, Nat.xor_self, Nat.xor_zero] at this
    exact this
  exact crc32_burst S S' hb this

/-- Corruption confined to the FINGERPRINT value: any change of the 4 value bytes (covered bytes intact) fails. -/
theorem fp_detects_value_change (m : Msg) (S v' : Bytes) (hv : v' ≠ put32 (crc32 S ^^^ 0x5354554e)) (hl : v'.length = 4)
    (hlen : 8 ≤ m.len) (hcov : m.raw.take (m.len - 8) = S) (hget : m.get attrFingerprint = some v') :
    fingerprintCheck m ≠ .ok := by
  intro hok
  obtain ⟨b, hb1, _, hb3⟩ := (fp_check_iff m hlen).mp hok
  rw [hget] at hb1
  simp only [Option.some.injEq] at hb1; subst hb1
  rw [hcov] at hb3
  apply hv
  rw [← put32_be32 hl, hb3]

end Stun.C05
