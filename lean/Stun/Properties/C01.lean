/-
  C01 — decoding arbitrary bytes is total and memory-safe.
  Every statement quantifies over every backing array `mem` (any capacity, any content beyond the visible part)
  and every visible length `len ≤ mem.length`, i.e. over every byte string in every buffer.
-/
import Stun.Proofs.DecodeMsg
namespace Stun.C01
open Stun Stun.Spec Stun.DecodeProofs

/-- No slice expression of `Decode` can go out of range, whatever the bytes and the capacity. -/
theorem decode_no_panic (mem : Bytes) (len : Nat) (hcap : len ≤ mem.length) :
    (decodeRaw mem len).2 ≠ .panic := by
  cases hp : rfcParse (mem.take len) with
  | none => obtain ⟨d, e, hk⟩ := decodeRaw_of_none hcap hp; rw [hk]; exact nofun
  | some p => rw [decodeRaw_of_parse hcap hp]; exact nofun

/-- `Decode` appends at most one attribute per 4 body bytes. (That it returns at all is Lean's acceptance of the
    attribute loop as a well-founded recursion on `size - offset`, without fuel.) -/
theorem decode_attr_count (mem : Bytes) (len : Nat) (hcap : len ≤ mem.length) (d : Decoded)
    (h : decodeRaw mem len = (some d, .ok ())) : 4 * d.attrs.length ≤ d.hdr.length := by
  obtain ⟨p, hp, hd⟩ := decodeRaw_ok hcap h
  cases hd
  have := AChain_count (rfcParse_chain hp)
  simp only [List.length_map]; omega

/-- what "each exposed value is a view of exactly the declared bytes inside the message's own declared body, in
    wire order and non-overlapping" means for the windows `Decode` returns -/
structure ViewsOK (len : Nat) (d : Decoded) : Prop where
  /-- the declared body lies inside the visible buffer -/
  body_in_buffer : 20 + d.hdr.length ≤ len
  /-- every value window has exactly the declared length and lies inside the declared body, after its 4-byte header -/
  each : ∀ v ∈ d.attrs, 24 ≤ v.val.off ∧ v.val.len = v.length ∧
            v.val.off + v.val.len + pad4 v.val.len ≤ 20 + d.hdr.length
  /-- wire order, pairwise disjoint (separated by at least the next attribute's header) -/
  ordered : d.attrs.Pairwise (fun a b => a.val.off + a.val.len + pad4 a.val.len + 4 ≤ b.val.off)

theorem decode_views (mem : Bytes) (len : Nat) (hcap : len ≤ mem.length) (d : Decoded)
    (h : decodeRaw mem len = (some d, .ok ())) : ViewsOK len d := by
  obtain ⟨p, hp, hd⟩ := decodeRaw_ok hcap h
  cases hd
  have hsz := (rfcParse_some hp).1
  rw [List.length_take] at hsz
  have hch := rfcParse_chain hp
  refine ⟨Nat.le_trans hsz (Nat.min_le_left ..), ?_, List.pairwise_map.mpr (AChain_pairwise hch)⟩
  intro v hv
  obtain ⟨a, ha, rfl⟩ := List.mem_map.mp hv
  have := AChain_bounds hch ha
  exact ⟨this.1, rfl, this.2.1⟩

/-- a successfully decoded input satisfies `IsMessage` -/
theorem decode_isMessage (mem : Bytes) (len : Nat) (hcap : len ≤ mem.length) (d : Option Decoded)
    (h : decodeRaw mem len = (d, .ok ())) : isMessage (mem.take len) = true := by
  obtain ⟨p, hp, _⟩ := decodeRaw_ok hcap h
  obtain ⟨hsz, hc, _⟩ := rfcParse_some hp
  simp only [isMessage, messageHeaderSize, magicCookie, hc, cookie, beq_self_eq_true, Bool.and_true]
  exact decide_eq_true (by omega)

/-- every copying entry point (`Decode(data,m)`, `Write`, `UnmarshalBinary`, `GobDecode`, and `CloneTo` with
    `data = src.Raw`) is `Decode` on a buffer whose visible part is `data`; none of them can panic, whatever the
    receiver held before and whatever its capacity. -/
theorem decodeFrom_no_panic (m : Msg) (data : Bytes) : (m.decodeFrom data).2 ≠ .panic :=
  DecodeProofs.decode_no_panic _ (setRaw_len_le m data)

theorem setRaw_raw (m : Msg) (data : Bytes) : (m.setRaw data).raw = data := DecodeProofs.setRaw_raw m data

/-- `ReadFrom` (for whatever the reader delivers) cannot panic either -/
theorem readFrom_no_panic (m : Msg) (chunk : Bytes) : (m.readFrom chunk).2 ≠ .panic :=
  DecodeProofs.decode_no_panic _ (by rw [List.length_append]; exact Nat.le_add_right ..)

-- non-vacuity: header + SOFTWARE "abc" + one padding byte decodes to one attribute whose value window is [24,27)
set_option maxRecDepth 4000 in
private def exMsg : Bytes := [0x00,0x01,0x00,0x08,0x21,0x12,0xa4,0x42,1,2,3,4,5,6,7,8,9,10,11,12,0x80,0x22,0x00,0x03,0x61,0x62,0x63,0x00]
example : decodeRaw exMsg 28 = (some ⟨⟨1, 0, 8, [1,2,3,4,5,6,7,8,9,10,11,12]⟩, [⟨0x8022, 3, ⟨24, 3⟩⟩]⟩, .ok ()) := by
  simp [decodeRaw, exMsg, Sl.sub?, messageHeaderSize, be16, be32, u16, u32, magicCookie, readValue, w16]
  rw [decodeLoop]; simp [attributeHeaderSize, Sl.sub?, Sl.from?, Sl.to?, be16, u16, compatAttrType, nearestPaddedValueLength, padding]
  rw [decodeLoop]; simp

end Stun.C01
