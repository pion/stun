/-
  C03 — built messages are well-formed and the struct always matches its wire bytes.
  `Canonical m` (Proofs/Canonical.lean) says: raw = header(type, length, cookie, tid) ++ TLVs of `m.attrs` with zero
  padding, `m.length` = number of body bytes (< 65536), every attribute's Length field = its value's length.
  Statements hold for every previous state of the message object (any spare capacity, any stale content) and every
  MAC function with 20-byte output (HMAC-SHA1 in the driver).
-/
import Stun.Proofs.CanonicalDecode
import Stun.Proofs.Encode
namespace Stun.C03
open Stun Stun.Msg Stun.Spec Stun.BuildProofs

/-- `Build` (Reset, WriteHeader, setters) yields a canonical message from any starting state -/
theorem build_canonical (mac : Bytes → Bytes → Bytes) (hmac : ∀ k x, (mac k x).length = 20)
    (m : Msg) (ss : List Setter) (hcap : m.len ≤ m.mem.length) (htid : m.tid.length = 12)
    (hf : AllFit mac ss m.reset.writeHeader) : Canonical (build mac m ss).1 :=
  BuildProofs.build_canonical mac hmac m ss hcap htid hf

/-- every single building operation preserves canonicity: Add / typed setters / SetType / transaction-ID setter /
    integrity / fingerprint (as `Setter`s) here, WriteHeader and WriteLength in the next two theorems; hence any
    sequence of them does (`ops_canonical` below). -/
theorem op_preserves_canonical (mac : Bytes → Bytes → Bytes) (hmac : ∀ k x, (mac k x).length = 20)
    (s : Setter) (m : Msg) (h : Canonical m) (hf : SetterFits s m) : Canonical (s.addTo mac m).1 :=
  setter_canonical mac hmac s m h hf

theorem writeHeader_preserves (m : Msg) (h : Canonical m) : Canonical m.writeHeader :=
  canonical_of_writeHeader h.cap h.tidLen h.raw_drop h.length h.fits h.attrs

theorem writeLength_preserves (m : Msg) (h : Canonical m) : Canonical m.writeLength := by
  have hlen := h.rawLen
  rw [Canonical, writeLength_eq (by omega)]
  exact h.setLen rfl

/-- building operations as data, for sequences of arbitrary length -/
inductive Op where
  | set (s : Setter)
  | writeHeader
  | writeLength

def Op.run (mac : Bytes → Bytes → Bytes) (o : Op) (m : Msg) : Msg :=
  match o with
  | .set s => (s.addTo mac m).1
  | .writeHeader => m.writeHeader
  | .writeLength => m.writeLength

def Op.Fits (o : Op) (m : Msg) : Prop := match o with | .set s => SetterFits s m | _ => True

def OpsFit (mac : Bytes → Bytes → Bytes) : List Op → Msg → Prop
  | [], _ => True
  | o :: r, m => o.Fits m ∧ OpsFit mac r (o.run mac m)

/-- any sequence of building operations, of any length, keeps the struct and its wire bytes in agreement -/
theorem ops_canonical (mac : Bytes → Bytes → Bytes) (hmac : ∀ k x, (mac k x).length = 20)
    (ops : List Op) (m : Msg) (h : Canonical m) (hf : OpsFit mac ops m) :
    Canonical (ops.foldl (fun m o => o.run mac m) m) := by
  induction ops generalizing m with
  | nil => exact h
  | cons o r ih =>
    simp only [List.foldl_cons]
    apply ih
    · cases o with
      | set s => exact setter_canonical mac hmac s m h hf.1
      | writeHeader => exact writeHeader_preserves m h
      | writeLength => exact writeLength_preserves m h
    · exact hf.2

/-- a canonical message is a well-formed STUN message: cookie, header length = bytes after the header, multiple of 4,
    body = TLVs with zero padding -/
theorem canonical_wellformed (m : Msg) (h : Canonical m) :
    m.raw.length = 20 + m.length ∧ be32 (m.raw.drop 4) = magicCookie ∧ be16 (m.raw.drop 2) = m.length ∧
    m.length % 4 = 0 ∧ m.raw.drop 20 = body m.attrs := by
  refine ⟨?_, ?_, ?_, ?_, h.raw_drop⟩
  · rw [raw_length h.cap]; exact h.rawLen
  · rw [h.raw]; exact be32_headerL m m.length _
  · rw [h.raw]; exact be16_headerL m h.fits _
  · rw [h.length]; exact DecodeProofs.serialize_length_mod4 _ (padsOK_wire m.attrs h.attrs)

/-- decoding the raw bytes of a canonical message (into any message object) gives back exactly the struct:
    type, length, transaction ID, ordered attributes — encode-then-decode is the identity on message content
    (attribute type 0x8020 comes back as its tolerated alias 0x0020, see DESIGN §7) -/
theorem canonical_decode (m b : Msg) (h : Canonical m) (hm : m.method < 4096) (hc : m.cls < 4) :
    (b.decodeFrom m.raw).2 = .ok () ∧
    (b.decodeFrom m.raw).1.method = m.method ∧ (b.decodeFrom m.raw).1.cls = m.cls ∧
    (b.decodeFrom m.raw).1.length = m.length ∧ (b.decodeFrom m.raw).1.tid = m.tid ∧
    (b.decodeFrom m.raw).1.attrs = m.attrs.map aliasAttr ∧ (b.decodeFrom m.raw).1.raw = m.raw :=
  BuildProofs.canonical_decode m b h hm hc

/-- and `Equal` agrees (in both directions) when no attribute uses the legacy 0x8020 number -/
theorem equal_agrees (m b : Msg) (h : Canonical m) (hm : m.method < 4096) (hc : m.cls < 4)
    (hal : ∀ a ∈ m.attrs, a.typ ≠ 0x8020) :
    m.equal (b.decodeFrom m.raw).1 = true ∧ (b.decodeFrom m.raw).1.equal m = true := by
  rw [decodeFrom_canonical m b h hm hc, map_aliasAttr hal]
  exact ⟨equal_of_fields _ _ rfl rfl rfl rfl rfl, equal_of_fields _ _ rfl rfl rfl rfl rfl⟩

/-- `Encode` (WriteHeader + re-adding every attribute) on ANY struct whose attribute list is well-formed and fits
    16 bits — whatever its raw bytes were before — yields a canonical message with the same content -/
theorem encode_canonical (m : Msg) (htid : m.tid.length = 12) (hwf : AttrsWF m.attrs)
    (hfit : (body m.attrs).length < 65536) (hne : m.attrs ≠ [] ∨ m.length = 0) :
    Canonical m.encode ∧ m.encode.attrs = m.attrs ∧ m.encode.method = m.method ∧ m.encode.cls = m.cls ∧
    m.encode.tid = m.tid :=
  BuildProofs.encode_canonical m htid hwf hfit hne

/-- decode-then-encode reproduces the canonical bytes: decoding the raw bytes of a canonical message into any message
    object and calling `Encode` on the result gives back exactly those bytes (when no attribute uses the legacy
    0x8020 number, which decoding reports under its alias) -/
theorem decode_then_encode (m b : Msg) (h : Canonical m) (hm : m.method < 4096) (hc : m.cls < 4)
    (hal : ∀ a ∈ m.attrs, a.typ ≠ 0x8020) (hb : (b.decodeFrom m.raw).1.len ≤ (b.decodeFrom m.raw).1.mem.length) :
    (b.decodeFrom m.raw).1.encode.raw = m.raw := by
  have _ := hb   -- not used: `Encode` starts by truncating `Raw` and reads only the struct
  obtain ⟨_, h1, h2, h3, h4, h5, _⟩ := canonical_decode m b h hm hc
  exact (encode_eq_of_fields h h1 h2 h3 h4 (h5.trans (map_aliasAttr hal))).1

-- non-vacuity of `AllFit`: a setter list that fits the message `Build` starts from
example (mac : Bytes → Bytes → Bytes) : AllFit mac [.raw 0x8022 [1, 2, 3]] (({} : Msg).reset.writeHeader) := by
  refine ⟨?_, fun _ => trivial⟩
  obtain ⟨-, -, -, -, (hl : _ = 0)⟩ := writeHeader_fields ({} : Msg).reset
  simp only [SetterFits, Setter.adds, hl]
  simp [pad4]

end Stun.C03
