/-
  C11 at level L2: over every L2 history (blocking writes, blocking agent registrations, blocking first writes of
  Start, responses processed meanwhile, releases with success or failure) a request is written at most n+1 times.
  The potential argument is in Proofs/ClientL2Writes.lean.
  Known finding F14 (a write AFTER the transaction completed, `f14_write_after_completion`) is such a history: the late
  write is within the n+1 bound; what it violates is "a finished transaction writes nothing more".
-/
import Stun.Proofs.ClientL2Writes
import Stun.Properties.C10L2
namespace Stun.C11L2
open Stun Stun.Client Stun.ClientProofs

theorem l2_writes_at_most_n_plus_1 (n : Nat) (ops : List COp2) (h : Nat) (hu : startCount2 h ops ≤ 1) :
    wr h (({ c := { maxAttempts := n } } : Client2).run ops).2 ≤ n + 1 := by
  have hb := run2_budget n h ops [] { c := { maxAttempts := n } } (inv2_empty _ _ rfl rfl) rfl
  have h0 : pot n h ({ c := { maxAttempts := n } } : Client2) = 0 := rfl
  have := Nat.mul_le_mul_left (n + 1) hu
  omega

/-- non-vacuity and tightness at L2: n = 1, the retransmission suspended at ClientAgent.Start, the response processed
    meanwhile, the registration then succeeds: exactly n + 1 = 2 writes (the second one is F14's late write) -/
example : wr 1 (({ c := { maxAttempts := 1 } } : Client2).run
    [.l1 (.start C10L2.id1 C10L2.req1 (some 1)), .blockAgent C10L2.id1, .l1 (.tick 300000001),
     .deliverDecoded C10L2.id1 C10L2.resp1, .release true]).2 = 2 := by
  decide +kernel

end Stun.C11L2
