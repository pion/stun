/-
  C08 — reusing a Message never leaks or corrupts data across uses.
  Non-interference over the explicit spare capacity: `Msg.mem` is the whole backing array, so two message objects
  with different `mem` beyond the visible part (different previous uses, different stale bytes, different capacity)
  are different values of the model; the theorems say that what is observable after a successful operation does
  not depend on that difference.
  Aliasing itself (does the library keep a reference to caller memory?) cannot be expressed in a value-semantic
  model; that half of the property is decided by the correspondence stream only (see DESIGN §4 C08).
-/
import Stun.Proofs.SameObs
import Stun.Proofs.DecodeMsg
namespace Stun.C08
open Stun Stun.Msg Stun.Spec Stun.BuildProofs Stun.DecodeProofs

/-- `Add` into two buffers that show the same visible bytes gives the same visible bytes, whatever lies in their
    spare capacity and whatever their capacities are (every byte `grow` exposes is overwritten) -/
theorem add_independent_of_spare (m1 m2 : Msg) (t : Nat) (v : Bytes)
    (hraw : m1.raw = m2.raw) (hlen : m1.length = m2.length)
    (a1 : 20 + m1.length ≤ m1.len) (b1 : m1.len ≤ m1.mem.length)
    (a2 : 20 + m2.length ≤ m2.len) (b2 : m2.len ≤ m2.mem.length)
    (hfit : m1.length + 4 + v.length + 3 < 4294967296) :
    (m1.add t v).raw = (m2.add t v).raw ∧ (m1.add t v).length = (m2.add t v).length := by
  have hfit2 : m2.length + 4 + v.length + 3 < 4294967296 := hlen ▸ hfit
  exact ⟨by rw [add_raw b1 a1 hfit, add_raw b2 a2 hfit2, hraw, hlen], by rw [add_length hfit, add_length hfit2, hlen]⟩

/-- decoding `data` into any two message objects (whatever they held, whatever their capacity) succeeds or fails
    alike and, on success, gives the same type, length, transaction ID, attributes and raw bytes -/
theorem decodeFrom_independent (b1 b2 : Msg) (data : Bytes) :
    ((b1.decodeFrom data).2 = .ok () ↔ (b2.decodeFrom data).2 = .ok ()) ∧
    ((b1.decodeFrom data).2 = .ok () →
      (b1.decodeFrom data).1.method = (b2.decodeFrom data).1.method ∧
      (b1.decodeFrom data).1.cls = (b2.decodeFrom data).1.cls ∧
      (b1.decodeFrom data).1.length = (b2.decodeFrom data).1.length ∧
      (b1.decodeFrom data).1.tid = (b2.decodeFrom data).1.tid ∧
      (b1.decodeFrom data).1.attrs = (b2.decodeFrom data).1.attrs ∧
      (b1.decodeFrom data).1.raw = data ∧ (b2.decodeFrom data).1.raw = data) := by
  cases hp : rfcParse data with
  | none =>
    obtain ⟨m1, e1, h1⟩ := decodeFrom_of_none b1 hp
    obtain ⟨m2, e2, h2⟩ := decodeFrom_of_none b2 hp
    rw [h1, h2]
    exact ⟨by simp, by intro hok; simp at hok⟩
  | some p =>
    rw [decodeFrom_of_parse b1 hp, decodeFrom_of_parse b2 hp]
    exact ⟨by simp, fun _ => ⟨rfl, rfl, rfl, rfl, rfl, setRaw_raw b1 data, setRaw_raw b2 data⟩⟩

/-- `Build` into a message object that previously held anything gives exactly what a fresh message with the same
    Type and TransactionID fields gives: same error, same raw bytes, same length, same attribute list -/
theorem build_independent (mac : Bytes → Bytes → Bytes) (hmac : ∀ k x, (mac k x).length = 20)
    (m1 m2 : Msg) (ss : List Setter)
    (hc1 : m1.len ≤ m1.mem.length) (hc2 : m2.len ≤ m2.mem.length) (ht : m1.tid.length = 12)
    (hm : m1.method = m2.method) (hc : m1.cls = m2.cls) (hid : m1.tid = m2.tid)
    (hf : AllFit mac ss m1.reset.writeHeader) :
    (build mac m1 ss).2 = (build mac m2 ss).2 ∧ (build mac m1 ss).1.raw = (build mac m2 ss).1.raw ∧
    (build mac m1 ss).1.length = (build mac m2 ss).1.length ∧ (build mac m1 ss).1.attrs = (build mac m2 ss).1.attrs := by
  have _ := hc1; have _ := hc2   -- not used: `Reset` empties the visible window
  have h0 : SameObs m1.reset.writeHeader m2.reset.writeHeader :=
    ⟨canonical_start m1 ht, canonical_start m2 (hid ▸ ht), by simpa [Msg.reset] using hm,
      by simpa [Msg.reset] using hc, by simpa [Msg.reset] using hid, by simp [Msg.reset]⟩
  obtain ⟨e, so⟩ := applySetters_sameObs mac hmac ss _ _ h0 hf
  exact ⟨e, so.raw, so.length, so.attrs⟩

end Stun.C08
