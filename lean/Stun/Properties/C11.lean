/-
  C11 — retransmissions are bit-identical, bounded and on schedule (L1 model).
  Proved here: every write that belongs to a transaction carries byte for byte the message given to `Start`
  (the stored copy is immutable in the model; that the real client copies it is decided by the correspondence, which
  overwrites the caller's message after every Start); a callback writes only for a registered transaction of an open
  client, on an event that is not a response, while attempts remain (`retransmit_guard`); the agent's collector reports
  a transaction only strictly after its deadline; SetRTO leaves in-flight transactions alone; and over a whole history
  a request is written at most n+1 times (`writes_at_most_n_plus_1`, by a potential argument: Proofs/ClientWrites.lean).
-/
import Stun.Proofs.ClientWrites
import Stun.Proofs.Agent
namespace Stun.C11
open Stun Stun.Client Stun.ClientProofs

/-- every transaction write in every history is the message of some `Start` with that handler: bit-identical -/
theorem writes_bit_identical (ops : List COp) (raw : Bytes) (h : Nat)
    (hm : COut.write raw (some h) ∈ allOuts (run {} ops).2) :
    ∃ id, COp.start id raw (some h) ∈ ops := by
  obtain ⟨id, hr⟩ := (run_spec ops [] {} tinv_init (fromStarts_init _)).2.2.2.1 raw h hm
  rw [List.append_nil] at hr
  exact ⟨id, (mem_startsOf ops h id raw).mp hr⟩

/-- a retransmission is only made for a registered transaction that has attempts left, and only on an error event
    (never after a response) -/
theorem retransmit_guard (c : Client) (id : TID) (e : CEv) (raw : Bytes) (h : Option Nat)
    (hm : COut.write raw h ∈ (c.callback id e).2) :
    ∃ tx, c.lookup id = some tx ∧ raw = tx.raw ∧ h = some tx.h ∧ tx.attempt < c.maxAttempts ∧ e.isMsg = false ∧
      c.closed = false := by
  have o := callback_outcome c id e
  generalize c.callback id e = r at o hm
  cases o with
  | ignored | fallback | completed => simp at hm
  | retransmitted tx hl hc hlt he o =>
    have : raw = tx.raw ∧ h = some tx.h := by
      cases o with
      | written => simpa using hm
      | failed w => cases w <;> simp at hm; exact hm
    exact ⟨tx, hl, this.1, this.2, hlt, he, hc⟩

/-- the collector only reports transactions whose deadline is strictly before the collect time: a tick at or before
    the deadline retransmits nothing for that transaction -/
theorem no_retransmit_before_deadline (a : Agent) (hc : a.closed = false) (t : Nat) (ev : AEvent)
    (hm : ev ∈ (a.collect t).2.2) : ∃ d, (ev.id, d) ∈ a.table ∧ d < t := by
  obtain ⟨_, h2, _⟩ := C13.collect_spec a hc t
  rw [h2] at hm
  obtain ⟨p, hp, rfl⟩ := List.mem_map.mp hm
  obtain ⟨hp1, hp2⟩ := List.mem_filter.mp hp
  exact ⟨p.2, hp1, by simpa using hp2⟩

/-- the deadline registered by a retransmission is `now + (attempt+1)·rto` with the RTO captured at `Start` -/
theorem nextTimeout_formula (tx : Txn) (now : Nat) : nextTimeout tx now = now + (tx.attempt + 1) * tx.rto := rfl

/-- SetRTO affects only transactions started later: the table (with each transaction's captured RTO) is untouched -/
theorem setRTO_only_later (c : Client) (r : Nat) : (c.setRTO r).t = c.t ∧ (c.setRTO r).agent = c.agent := ⟨rfl, rfl⟩

/-- with retransmission disabled (attempt limit 0) a timeout completes the transaction without any write -/
theorem no_retransmit_when_disabled (c : Client) (h0 : c.maxAttempts = 0) (id : TID) (e : CEv) (raw : Bytes)
    (h : Option Nat) : COut.write raw h ∉ (c.callback id e).2 := by
  intro hm
  obtain ⟨tx, _, _, _, hlt, _⟩ := retransmit_guard c id e raw h hm
  omega

/-- Over any history (any number of transactions, responses, duplicates, garbage, ticks at any times, scripted write
    failures, RTO changes, Close) on a client configured for `n` retransmissions, the request of a transaction is
    written at most `n + 1` times: once by `Start` and at most `n` times by retransmissions. (`h` names the handler
    given to exactly one `Start`, which is how the writes of one transaction are told apart.) -/
theorem writes_at_most_n_plus_1 (n : Nat) (ops : List COp) (h : Nat) (hu : startCount h ops ≤ 1) :
    wr h (allOuts (run ({ maxAttempts := n } : Client) ops).2) ≤ n + 1 := by
  have hb := run_budget n h ops ({ maxAttempts := n } : Client) (tinv_congr (c := {}) rfl tinv_init) rfl
  have h0 : budget n h ({ maxAttempts := n } : Client) = 0 := rfl
  have := Nat.mul_le_mul_left (n + 1) hu
  omega

/-- non-vacuity and tightness: with n = 2 and three deadlines passing, exactly 3 writes -/
example : wr 1 (allOuts (run ({ maxAttempts := 2, rto := 10 } : Client)
    [.start [1,2,3,4,5,6,7,8,9,10,11,12] [0,1] (some 1), .tick 11, .tick 100, .tick 1000, .tick 10000]).2) = 3 := by
  decide

end Stun.C11
