/-
  C02 — the decoder accepts exactly RFC 5389 framing and reports its TLV list; Get / Contains / ForEach.
-/
import Stun.Proofs.DecodeMsg
namespace Stun.C02
open Stun Stun.Spec Stun.DecodeProofs

/-- `Decode` succeeds exactly when the RFC parse of the visible bytes exists (any capacity). -/
theorem decode_ok_iff (mem : Bytes) (len : Nat) (hcap : len ≤ mem.length) :
    (decodeRaw mem len).2 = .ok () ↔ (rfcParse (mem.take len)).isSome = true := by
  cases hp : rfcParse (mem.take len) with
  | none => obtain ⟨d, e, hk⟩ := decodeRaw_of_none hcap hp; rw [hk]; simp
  | some p => rw [decodeRaw_of_parse hcap hp]; simp

/-- On success every field `Decode` stores is the one the independent RFC parse reports: method, class, length,
    transaction ID and the ordered list of (type, length, value window). -/
theorem decode_eq_rfcParse (mem : Bytes) (len : Nat) (hcap : len ≤ mem.length) (p : Parsed)
    (hp : rfcParse (mem.take len) = some p) :
    decodeRaw mem len = (some ⟨⟨p.method, p.cls, p.length, p.tid⟩, p.attrs.map viewOf⟩, .ok ()) :=
  decodeRaw_of_parse hcap hp

/-- the same at the level of the Message struct, with attribute *values*: whatever the struct held before -/
theorem msg_decode_eq_rfcParse (m : Msg) (hcap : m.len ≤ m.mem.length) (p : Parsed)
    (hp : rfcParse m.raw = some p) :
    m.decode = ({ m with method := p.method, cls := p.cls, length := p.length, tid := p.tid,
                          attrs := p.attrs.map attrOfSpec }, .ok ()) :=
  decode_of_parse hcap hp

/-- The "if and only if" of the property, with the RFC grammar in generating form: a byte string is accepted iff it
    has 20 header bytes with the magic cookie, holds at least the declared body, and that body is *exactly* a
    sequence of TLVs each followed by `pad4` bytes of arbitrary padding. -/
theorem accepts_iff (bs : Bytes) :
    (rfcParse bs).isSome = true ↔
      20 ≤ bs.length ∧ be32 (bs.drop 4) = cookie ∧ 20 + be16 (bs.drop 2) ≤ bs.length ∧
      ∃ xs, PadsOK xs ∧ (bs.drop 20).take (be16 (bs.drop 2)) = serialize xs := by
  constructor
  · intro h
    cases hp : rfcParse bs with
    | none => rw [hp] at h; simp at h
    | some p =>
      obtain ⟨hsz, hc, hl, ht, _⟩ := rfcParse_some hp
      obtain ⟨xs, hok, hser, _⟩ := tlvs_sound _ _ _ ht
      rw [hl] at hsz hser
      exact ⟨by omega, hc, hsz, xs, hok, hser⟩
  · rintro ⟨h20, hc, hsz, xs, hok, hser⟩
    unfold rfcParse
    have h1 : ¬ bs.length < 20 := Nat.not_lt.2 h20
    have h3 : ¬ bs.length < 20 + be16 (bs.drop 2) := Nat.not_lt.2 hsz
    simp only [h1, hc, h3, if_false, ne_eq, not_true_eq_false]
    rw [hser, tlvs_complete xs 20 hok]; rfl

/-- soundness with the reported content: an accepted message *is* header ++ TLVs ++ ignored trailing bytes, and
    the reported attributes are those TLVs (type through the 0x8020 alias, declared length, value bytes, offset) -/
theorem rfcParse_sound (bs : Bytes) (p : Parsed) (hp : rfcParse bs = some p) :
    ∃ xs, PadsOK xs ∧ bs = bs.take 20 ++ serialize xs ++ bs.drop (20 + p.length) ∧
      (serialize xs).length = p.length ∧ p.attrs = attrsOf 20 xs ∧
      p.method = fig3Method (be16 bs) ∧ p.cls = fig3Class (be16 bs) ∧ p.tid = (bs.drop 8).take 12 := by
  obtain ⟨xs, hok, hsplit, hl, has⟩ := rfcParse_tlvs hp
  obtain ⟨_, _, _, _, hm, hcl, htid⟩ := rfcParse_some hp
  exact ⟨xs, hok, hsplit, hl, has, hm, hcl, htid⟩

/-- `Get` returns the value of the *first* attribute of the type -/
theorem get_first (m : Msg) (t : Nat) (v : Bytes) :
    m.get t = some v ↔ ∃ pre a post, m.attrs = pre ++ a :: post ∧ a.typ = t ∧ a.val = v ∧ ∀ b ∈ pre, b.typ ≠ t := by
  unfold Msg.get
  simp only [Option.map_eq_some_iff, List.find?_eq_some_iff_append, beq_iff_eq, Bool.not_eq_true', beq_eq_false_iff_ne]
  constructor
  · rintro ⟨a, ⟨ht, pre, post, hs, hpre⟩, rfl⟩; exact ⟨pre, a, post, hs, ht, rfl, hpre⟩
  · rintro ⟨pre, a, post, hs, ht, rfl, hpre⟩; exact ⟨a, ⟨ht, pre, post, hs, hpre⟩, rfl⟩

theorem get_none_iff (m : Msg) (t : Nat) : m.get t = none ↔ ∀ a ∈ m.attrs, a.typ ≠ t := by
  unfold Msg.get
  simp [List.find?_eq_none]

theorem contains_iff_mem (m : Msg) (t : Nat) : m.contains t = true ↔ ∃ a ∈ m.attrs, a.typ = t := by
  unfold Msg.contains
  simp [List.any_eq_true]

/-- the suffixes of the attribute list that start at an attribute of type `t`, in order: what the callback is shown -/
def windows (t : Nat) : List RawAttr → List (List RawAttr)
  | [] => []
  | a :: r => (if a.typ = t then [a :: r] else []) ++ windows t r

theorem forEachAux_attrs (orig : List RawAttr) (t : Nat) (f : Msg → Msg × Bool) (l : List RawAttr) (m : Msg)
    (seen : List (List RawAttr)) : (Msg.forEachAux orig t f l m seen).1.attrs = orig := by
  fun_induction Msg.forEachAux orig t f l m seen with
  | case1 => rfl
  | case2 _ _ _ _ _ ih => exact ih
  | case3 => rfl
  | case4 => assumption

theorem forEachAux_seen (orig : List RawAttr) (t : Nat) (f : Msg → Msg × Bool) (l : List RawAttr) (m : Msg)
    (seen : List (List RawAttr)) :
    ∃ k, (Msg.forEachAux orig t f l m seen).2.2 = seen ++ (windows t l).take k ∧
      ((Msg.forEachAux orig t f l m seen).2.1 = false →
        (Msg.forEachAux orig t f l m seen).2.2 = seen ++ windows t l) := by
  fun_induction Msg.forEachAux orig t f l m seen with
  | case1 m seen => exact ⟨0, by simp [windows], by simp [windows]⟩
  | case2 a rest m seen ht ih => simpa [windows, ht] using ih
  | case3 a rest m seen ht m' _ =>
    have ht : a.typ = t := Decidable.not_not.1 ht
    exact ⟨1, by simp [windows, ht], by simp⟩
  | case4 a rest m seen ht m' failed _ _ ih =>
    have ht : a.typ = t := Decidable.not_not.1 ht
    obtain ⟨k, hk, hk2⟩ := ih
    exact ⟨k + 1, by simpa [windows, ht] using hk, by simpa [windows, ht] using hk2⟩

/-- `ForEach` leaves `m.Attributes` exactly as it found it, for every callback: failing or not, and whatever the
    callback did to the message (including overwriting the attribute list). -/
theorem forEach_restores (m : Msg) (t : Nat) (f : Msg → Msg × Bool) : (m.forEach t f).1.attrs = m.attrs :=
  forEachAux_attrs m.attrs t f m.attrs m []

/-- `ForEach` shows the callback the windows starting at each attribute of the type, in order, stopping after the
    first failing call -/
theorem forEach_visits (m : Msg) (t : Nat) (f : Msg → Msg × Bool) :
    ∃ k, (m.forEach t f).2.2 = (windows t m.attrs).take k ∧
      ((m.forEach t f).2.1 = false → (m.forEach t f).2.2 = windows t m.attrs) := by
  simpa [Msg.forEach] using forEachAux_seen m.attrs t f m.attrs m []

-- non-vacuity: two padded TLVs satisfy `PadsOK`
example : PadsOK [(0x8022, [1, 2, 3], [0]), (0x0006, [], [])] := by simp [PadsOK, pad4]

end Stun.C02
