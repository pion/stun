/-
  C05 — FINGERPRINT follows RFC 5389 §15.5.
  CRC-32 is the bit-serial specification in Spec/CRC32.lean (compared with Go's hash/crc32 by the correspondence).
  This file: the setter's value, add-then-check, and the exact acceptance condition of the checker.
  The burst-detection theorem is in Properties/C05Burst.lean.
-/
import Stun.Proofs.CanonicalDecode
namespace Stun.C05
open Stun Stun.Msg Stun.Spec Stun.BuildProofs Stun.DecodeProofs

/-- the setter's value: CRC-32 of all preceding bytes with the *final* header length, xor 0x5354554e -/
theorem fp_addTo_value (m : Msg) (h : Canonical m) (hfit : m.length + 8 < 65536) :
    (fingerprintAddTo m).2 = none ∧ Canonical (fingerprintAddTo m).1 ∧
    (fingerprintAddTo m).1.attrs = m.attrs ++
      [⟨attrFingerprint, 4, put32 (crc32 (headerL m (put16 (m.length + 8)) ++ body m.attrs) ^^^ 0x5354554e)⟩] := by
  obtain ⟨a, b, c, _⟩ := fingerprint_canonical m h hfit
  exact ⟨a, b, c⟩

/-- exact acceptance condition of the checker on any message with at least 8 visible bytes: the FIRST FINGERPRINT
    attribute has a 4-byte value equal to the CRC over everything before the last 8 bytes of the raw message -/
theorem fp_check_iff (m : Msg) (h8 : 8 ≤ m.len) :
    fingerprintCheck m = .ok ↔
      ∃ b, m.get attrFingerprint = some b ∧ b.length = 4 ∧
        be32 b = crc32 (m.raw.take (m.len - 8)) ^^^ 0x5354554e := by
  unfold fingerprintCheck
  cases m.get attrFingerprint with
  | none => simp
  | some b =>
    simp only [Option.some.injEq, exists_eq_left']
    by_cases hb : b.length = 4
    · rw [if_neg (show ¬ b.length ≠ fingerprintSize from not_not_intro hb),
        if_neg (by simp only [fingerprintSize, attributeHeaderSize]; omega)]
      simp [hb, fingerprintValue, fingerprintXORValue, fingerprintSize, attributeHeaderSize]
    · simp [hb, fingerprintSize]

theorem fingerprintValue_lt (bs : Bytes) : fingerprintValue bs < 4294967296 :=
  Nat.xor_lt_two_pow (n := 32) (BitVec.isLt _) (by decide)

/-- a message whose last attribute was added by the fingerprint setter passes the check at the receiver, after
    decoding its bytes into any message object — provided no earlier attribute already is a FINGERPRINT -/
theorem fp_add_then_check (m b : Msg) (h : Canonical m) (hm : m.method < 4096) (hc : m.cls < 4)
    (hfit : m.length + 8 < 65536) (hfresh : ∀ a ∈ m.attrs, compat a.typ ≠ attrFingerprint) :
    fingerprintCheck (b.decodeFrom (fingerprintAddTo m).1.raw).1 = .ok := by
  obtain ⟨_, hcan, hattrs, hmeth, hcls, htid⟩ := fingerprint_canonical m h hfit
  generalize hv : fingerprintValue (headerL m (put16 (m.length + 8)) ++ body m.attrs) = val at hattrs
  generalize (fingerprintAddTo m).1 = m' at *
  have hvlt : val < 4294967296 := hv ▸ fingerprintValue_lt _
  obtain ⟨_, _, _, _, _, d5, d6⟩ := canonical_decode m' b hcan (by rw [hmeth]; exact hm) (by rw [hcls]; exact hc)
  have hdlen : (b.decodeFrom m'.raw).1.len = 20 + m'.length := by
    rw [decodeFrom_len, raw_length hcan.cap, hcan.rawLen]
  generalize (b.decodeFrom m'.raw).1 = d at *
  have hl' : m'.length = m.length + 8 := by rw [length_appended h hcan hattrs, put32_length]; rfl
  rw [fp_check_iff d (by rw [hdlen]; omega)]
  refine ⟨put32 val, ?_, rfl, ?_⟩
  · unfold Msg.get; rw [d5, hattrs, find_alias_append hfresh rfl]; rfl
  · -- the raw bytes before the last 8 are the header (with the final length) and the old body
    have h8 : 20 + m'.length - 8 = 20 + m.length := by rw [hl', ← Nat.add_assoc, Nat.add_sub_cancel]
    rw [be32_put32 _ hvlt, d6, hdlen, h8, raw_before_last h hcan hattrs hmeth hcls htid, hl', ← hv]; rfl

end Stun.C05
