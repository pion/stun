/-
  C17 — URIs get RFC 7064/7065 defaults, round-trip, and dial the transport they name.
  This file: what every accepted URI looks like, defaults, transport rules, rejections, and the DialURI decision
  table. The round trip `parse (toStr u) = u` holds except for one recorded class of hosts (known finding F8,
  DESIGN §10.4): its refutation on a concrete URI is proved here.
-/
import Stun.Model.URI
namespace Stun.C17
open Stun Stun.URI

structure Wellformed (u : URI.URI) : Prop where
  host : u.host ≠ []
  portLo : 0 ≤ u.port
  portHi : u.port ≤ 65535
  stunUdp : u.scheme = .stun → u.proto = .udp
  stunsTcp : u.scheme = .stuns → u.proto = .tcp

/-- an accepted URI is well-formed, and its host is what `SplitHostPort` returned for the opaque part of a string that
    url.Parse took for rootless: `raw` itself, or the string of the retry -/
theorem parseURI_ok {retry : Bool} {raw : Str} {u : URI.URI} (h : parseURI retry raw = .ok u) :
    (∃ raw' scheme opq q p, urlParse raw' = .rootless scheme opq q ∧ splitHostPort opq = .ok (u.host, p)) ∧
      Wellformed u := by
  -- one goal per branch of `parseURI`: a rejecting branch contradicts `h`, an accepting one gives `u`, the retry
  -- (first of the goals left) is the induction hypothesis; the four accepting branches have the same proof
  fun_induction parseURI retry raw <;> try cases h
  next ih => exact ih h
  all_goals
    -- `with_reducible`: as it is, `assumption` unfolds `urlParse` against every hypothesis it tries
    refine ⟨⟨_, _, _, _, _, by with_reducible exact ‹urlParse _ = _›,
      by with_reducible exact ‹splitHostPort _ = _›⟩, ?_, ?_, ?_, by simp, by simp⟩
    · rintro rfl; exact ‹¬(_ == []) = true› rfl  -- `host`, from the test for an empty host
    · dsimp only; omega  -- `portLo`, `portHi`, from the range test
    · dsimp only; omega

theorem accepted_wellformed_aux (raw : Str) (u : URI.URI) (h : parseURI false raw = .ok u) : Wellformed u :=
  (parseURI_ok h).2

/-- every accepted URI has a known scheme (by type), a non-empty host, a port in 0..65535, UDP for stun and TCP for
    stuns -/
theorem accepted_wellformed (raw : Str) (u : URI.URI) (h : parseURI true raw = .ok u) : Wellformed u :=
  (parseURI_ok h).2

-- here, not beside `newProtoType_str` in Proofs/URIParse: this file, which the driver imports, imports the model only
theorem _root_.Stun.URI.newProtoType_eq_some {s : Str} {p : Proto} (h : newProtoType s = some p) : s = p.str := by
  unfold newProtoType at h
  split at h
  · cases h; exact eq_of_beq ‹_›
  · split at h
    · cases h; exact eq_of_beq ‹_›
    · cases h

/-- transport rules for turn / turns: the `?transport=` value if given, else UDP resp. TCP; a query that is not
    exactly one `transport=udp|tcp` key (repetitions allowed) is rejected -/
theorem parseProto_spec (q : Str) :
    match parseProto q with
    | .ok (some p) => valuesGet (parseQuery q).1 (lit "transport") = p.str ∧ (parseQuery q).2 = false ∧ (parseQuery q).1.length ≤ 1
    | .ok none => (parseQuery q).1 = [] ∧ (parseQuery q).2 = false
    | .error _ => True := by
  unfold parseProto
  rcases parseQuery q with ⟨m, err⟩
  dsimp only
  by_cases h1 : (err || decide (m.length > 1)) = true
  · rw [if_pos h1]; exact trivial
  have herr : err = false ∧ m.length ≤ 1 := by simpa using h1
  rw [if_neg h1]
  by_cases h2 : valuesGet m (lit "transport") ≠ []
  · rw [if_pos h2]
    cases hp : newProtoType (valuesGet m (lit "transport")) with
    | none => exact trivial
    | some p => exact ⟨newProtoType_eq_some hp, herr⟩
  rw [if_neg h2]
  by_cases h3 : m.length > 0
  · rw [if_pos h3]; exact trivial
  · rw [if_neg h3]; exact ⟨by simpa using h3, herr.1⟩

/-! ### DialURI decision table (client.go), as transliterated; the regenerated table is tied to it in Tie/ -/

inductive DialPlan where
  | udp | tcp | dtlsOverUdp | tlsOverTcp | unsupported
deriving DecidableEq, Repr

/-- hand-made URI values may carry an unknown scheme / proto (0) -/
inductive SchemeX where | unknown | stun | stuns | turn | turns
deriving DecidableEq, Repr
inductive ProtoX where | unknown | udp | tcp
deriving DecidableEq, Repr

/-- the `switch` of `DialURI` -/
def dialPlan (s : SchemeX) (p : ProtoX) : DialPlan :=
  if s = .stun then .udp
  else if s = .turn then (if p = .tcp then .tcp else .udp)
  else if s = .turns ∧ p = .udp then .dtlsOverUdp
  else if (s = .turns ∨ s = .stuns) ∧ p = .tcp then .tlsOverTcp
  else .unsupported

/-- for every URI ParseURI can produce, DialURI dials exactly the transport it denotes -/
theorem dial_plan_table :
    dialPlan .stun .udp = .udp ∧ dialPlan .stuns .tcp = .tlsOverTcp ∧
    dialPlan .turn .udp = .udp ∧ dialPlan .turn .tcp = .tcp ∧
    dialPlan .turns .udp = .dtlsOverUdp ∧ dialPlan .turns .tcp = .tlsOverTcp := by decide

/-- for every hand-made scheme/transport combination a secure scheme is never dialled in plaintext -/
theorem secure_never_plain (s : SchemeX) (p : ProtoX) (h : s = .stuns ∨ s = .turns) :
    dialPlan s p = .dtlsOverUdp ∨ dialPlan s p = .tlsOverTcp ∨ dialPlan s p = .unsupported := by
  rcases h with rfl | rfl <;> cases p <;> decide

/-- the recorded exception (known finding F8): a bracketed host without ':' that begins with '/' is accepted, but its
    formatted form `scheme:/…` is a path-form URL which ParseURI rejects -/
theorem roundtrip_fails_on_slash_host :
    parseURI true (lit "stun:[/a]") = .ok ⟨.stun, lit "/a", 3478, .udp⟩ ∧
    (⟨.stun, lit "/a", 3478, .udp⟩ : URI.URI).toStr = lit "stun:/a:3478" ∧
    parseURI true (lit "stun:/a:3478") = .error .host := by
  have a1 : urlParse (lit "stun:[/a]") = .rootless (lit "stun") (lit "[/a]") [] := by decide +kernel
  have a2 : newSchemeType (lit "stun") = some .stun := by decide +kernel
  have a3 : splitHostPort (lit "[/a]") = .error .missingPort := by rfl
  have a4 : Scheme.stun.str ++ [chr ':'] ++ lit "[/a]" ++ Scheme.stun.defaultPort ++
      (if ([] : Str) ≠ [] then [chr '?'] ++ [] else []) = lit "stun:[/a]:3478" := by decide +kernel
  have b1 : urlParse (lit "stun:[/a]:3478") = .rootless (lit "stun") (lit "[/a]:3478") [] := by decide +kernel
  have b3 : splitHostPort (lit "[/a]:3478") = .ok (lit "/a", lit "3478") := by rfl
  have b4 : atoi (lit "3478") = some 3478 := by decide +kernel
  have b5 : parseQuery [] = ([], false) := by decide +kernel
  have c1 : urlParse (lit "stun:/a:3478") = .other (lit "stun") := by decide +kernel
  refine ⟨?_, by decide +kernel, ?_⟩
  · rw [parseURI]; simp only [a1, a2, a3, if_true, a4]
    rw [parseURI]; simp only [b1, a2, b3, b4, b5]
    have hne : (lit "/a" == []) = false := by decide +kernel
    simp [hne]
  · rw [parseURI]; simp only [c1, a2]

end Stun.C17
