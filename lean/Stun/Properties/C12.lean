/-
  C12 — responses reach the transaction with the same ID and nothing else (L1 model).
-/
import Stun.Proofs.ClientHistory
import Stun.Proofs.ClientMsg
import Stun.Proofs.DecodeMsg
namespace Stun.C12
open Stun Stun.Client Stun.ClientProofs

/-- in every history, whenever a handler `h` is invoked with an event for transaction id `id`, some `Start` of the
    history registered exactly that handler for exactly that id: with one handler per Start, a handler only ever
    sees events of its own transaction id — however many transactions are in flight and in whatever order events
    arrive -/
theorem delivery_by_id (ops : List COp) (h : Nat) (id : TID) (e : CEv)
    (hm : COut.call h id e ∈ allOuts (run {} ops).2) :
    ∃ raw, COp.start id raw (some h) ∈ ops := by
  obtain ⟨raw, hr⟩ := (run_spec ops [] {} tinv_init (fromStarts_init _)).2.2.1 h id e hm
  rw [List.append_nil] at hr
  exact ⟨raw, (mem_startsOf ops h id raw).mp hr⟩

/-- the Message a handler sees is the decode of exactly the received datagram (the reader's buffer holds 1024 bytes) -/
theorem message_is_datagram (c : Client) (d : Bytes) (h : Nat) (id : TID) (raw : Bytes)
    (hm : COut.call h id (.msg raw) ∈ (c.deliver d).2) : raw = d.take 1024 :=
  (deliver_msg c d h id raw hm).2.2

/-- an event whose id matches no transaction goes only to the fallback handler (if one is set, and never a `stopped`
    event) -/
theorem unknown_to_fallback_only (c : Client) (id : TID) (e : CEv) (hl : c.lookup id = none) :
    c.callback id e = (c, if c.closed = false ∧ c.hasFallback = true ∧ e ≠ .stopped then [.fallback id e] else []) := by
  have o := callback_outcome c id e
  generalize c.callback id e = r at o ⊢
  cases o with
  | ignored _ hn => rw [if_neg hn]
  | fallback _ hc hf he => rw [if_pos ⟨hc, hf, he⟩]
  | completed hl' | retransmitted _ hl' => rw [hl] at hl'; cases hl'

/-- an undecodable datagram changes nothing and invokes nobody -/
theorem garbage_is_noop (c : Client) (d : Bytes) (h : (readerMsg.readFrom d).2 ≠ .ok ()) : c.deliver d = (c, []) :=
  (deliver_cases c d).resolve_right fun ⟨hok, _⟩ => h hok

/-- the reader reuses ONE Message object for every datagram. Whenever its decode succeeds, everything a handler can
    read from that object — type, transaction id, attribute list — is the RFC parse of exactly this datagram's first
    1024 bytes: nothing of an earlier datagram survives in it (the datagram before may have had more attributes). -/
theorem reader_message_is_decode (d : Bytes) (hok : (readerMsg.readFrom d).2 = .ok ()) :
    ∃ p, Spec.rfcParse (d.take 1024) = some p ∧
      (readerMsg.readFrom d).1.attrs = p.attrs.map DecodeProofs.attrOfSpec ∧
      (readerMsg.readFrom d).1.tid = p.tid ∧ (readerMsg.readFrom d).1.method = p.method ∧
      (readerMsg.readFrom d).1.cls = p.cls ∧ (readerMsg.readFrom d).1.length = p.length := by
  have hlen : (d.take 1024).length ≤ 1024 := List.length_take_le _ _
  let m0 : Msg := { readerMsg with mem := d.take 1024 ++ readerMsg.mem.drop (d.take 1024).length, len := (d.take 1024).length }
  have hm : readerMsg.readFrom d = m0.decode := by
    simp only [Msg.readFrom, m0, readerMsg, List.length_replicate]
  have hcap : m0.len ≤ m0.mem.length := by
    simp only [m0, readerMsg, List.length_append, List.length_drop, List.length_replicate]; omega
  have hraw : m0.raw = d.take 1024 := by
    simp only [Msg.raw, m0]; rw [List.take_left]
  rw [hm] at hok ⊢
  cases hp : Spec.rfcParse (d.take 1024) with
  | none =>
    obtain ⟨m', e, hk⟩ := DecodeProofs.decode_of_none hcap (hraw ▸ hp)
    rw [hk] at hok; simp at hok
  | some p =>
    have key := DecodeProofs.decode_of_parse hcap (hraw ▸ hp)
    exact ⟨p, rfl, by rw [key], by rw [key], by rw [key], by rw [key], by rw [key]⟩

end Stun.C12
