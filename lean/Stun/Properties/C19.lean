/-
  C19 — message type encoding is the RFC 5389 figure-3 layout and a bijection.
  Proved for all inputs without enumeration: the statements of the property are cases of the unconditional facts of
  Proofs/Bits.lean (`Value()`/`ReadValue()` are figure 3 for every argument; figure 3 on digits).
-/
import Stun.Model.MsgType
import Stun.Proofs.Bits
namespace Stun.C19
open Stun.Bits Stun.Spec

/-- `Value()` places the method and class bits exactly as figure 3 prescribes. -/
theorem value_eq_rfc (m c : Nat) (hm : m < 4096) (hc : c < 4) : typeValue m c = Spec.fig3 m c :=
  have _ := hm; have _ := hc   -- not used: `typeValue_arith` holds for all naturals; the domain is the property's
  typeValue_arith m c

/-- the two leading bits of every encoded type are zero -/
theorem value_lt_2_14 (m c : Nat) (hm : m < 4096) (hc : c < 4) : typeValue m c < 16384 :=
  have _ := hm; have _ := hc   -- not used, as in `value_eq_rfc`
  typeValue_lt m c

/-- decoding an encoded type gives back the method and class -/
theorem read_value (m c : Nat) (hm : m < 4096) (hc : c < 4) : readValue (typeValue m c) = (m, c) := by
  rw [readValue_typeValue, Nat.mod_eq_of_lt hm, Nat.mod_eq_of_lt hc]

/-- every decoded method fits 12 bits and every class 2 bits -/
theorem readValue_range (v : Nat) : (readValue v).1 < 4096 ∧ (readValue v).2 < 4 := by
  rw [readValue_arith]; simp only; omega

/-- encoding is injective on the domain (consequence of `read_value`) -/
theorem value_injective (m c m' c' : Nat) (hm : m < 4096) (hc : c < 4) (hm' : m' < 4096) (hc' : c' < 4)
    (h : typeValue m c = typeValue m' c') : m = m' ∧ c = c' := by
  have h2 := read_value m' c' hm' hc'
  rw [← h, read_value m c hm hc] at h2
  exact Prod.mk.inj h2

/-- encoding is onto the 14-bit values: every value below 2^14 is the encoding of what `ReadValue` returns -/
theorem value_surjective (v : Nat) (hv : v < 16384) :
    typeValue (readValue v).1 (readValue v).2 = v := by
  rw [value_read]; omega

/-- outside the domain: `Value()` silently drops method bits 12-15 and class bits 2-7, so every uint16 method and
    byte class encodes as its reduction into the domain (what `NewType` does with an out-of-range argument) -/
theorem value_out_of_domain (m c : Nat) (hm : m < 65536) (hc : c < 256) :
    typeValue m c = typeValue (m % 4096) (c % 4) := by
  have _ := hm; have _ := hc   -- not used: true of all naturals; uint16 and byte are the arguments Go can pass
  -- both sides are below 2^14 and read back as the same pair
  have h := value_read (typeValue m c)
  rw [readValue_typeValue, Nat.mod_eq_of_lt (typeValue_lt m c)] at h
  exact h.symm

/-- hence every encoded type, whatever the method and class, has its two leading bits clear -/
theorem value_lt_2_14_any (m c : Nat) (hm : m < 65536) (hc : c < 256) : typeValue m c < 16384 :=
  have _ := hm; have _ := hc   -- not used, as in `value_out_of_domain`
  typeValue_lt m c

/-- and decoding it yields the reduced method and class -/
theorem read_value_any (m c : Nat) (hm : m < 65536) (hc : c < 256) :
    readValue (typeValue m c) = (m % 4096, c % 4) :=
  have _ := hm; have _ := hc   -- not used, as in `value_out_of_domain`
  readValue_typeValue m c

-- sanity: Binding success response is 0x0101, Allocate error response 0x0113; out of the domain, 0x1001 / 6 reduce to 1 / 2
example : typeValue 0x001 2 = 0x0101 ∧ typeValue 0x003 3 = 0x0113 := by decide
example : typeValue 0x1001 6 = 0x0101 := by decide
example : readValue 0x0101 = (1, 2) := by decide

end Stun.C19
