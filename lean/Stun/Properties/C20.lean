/-
  C20 — hot paths allocate nothing in steady state (partial: the capacity logic of `Raw`).

  What is proved is the part of the property that is logic: with `Raw` modelled as a backing array plus a length, an
  operation allocates for `Raw` exactly when the array has to grow. Once the object has been used for a message at
  least as large, decoding through every entry point and rebuilding with any setters never moves `Raw`.
  What the theorems cannot show is measured by the correspondence stream `alloc` (testing.AllocsPerRun on the real
  code for every generated message): the `Attributes` slice, getter destinations, escape analysis, pool behaviour.

  The full statement is FALSE on the unchanged tree for the integrity check: `MessageIntegrity.Check` lets the HMAC
  state append its 20-byte sum to the spare capacity of `Raw` and allocates whenever fewer than 20 bytes are spare —
  `integrityCheck_allocates_without_spare` (known finding F9), even on an object that was used for this very message.
-/
import Stun.Model.Alloc
import Stun.Proofs.Capacity
import Stun.Proofs.DecodeMsg
namespace Stun.C20
open Stun Stun.Msg Stun.BuildProofs Stun.DecodeProofs

/-- decoding (Write / Decode / UnmarshalBinary / GobDecode / CloneTo) into an object whose capacity holds the input
    does not move `Raw` -/
theorem decode_warm (m : Msg) (data : Bytes) (h : data.length ≤ m.mem.length) : Alloc.decodeFrom m data = 0 := by
  rw [Alloc.decodeFrom, Alloc.realloc, decodeFrom_cap, if_pos (Nat.max_eq_left h)]

/-- ... and it does move it otherwise: the accounting is exact -/
theorem decode_cold (m : Msg) (data : Bytes) (h : m.mem.length < data.length) : Alloc.decodeFrom m data = 1 := by
  rw [Alloc.decodeFrom, Alloc.realloc, decodeFrom_cap, if_neg (by omega)]

theorem decode_cap (m : Msg) (data : Bytes) :
    data.length ≤ (m.decodeFrom data).1.mem.length ∧ m.mem.length ≤ (m.decodeFrom data).1.mem.length := by
  rw [decodeFrom_cap]; exact ⟨Nat.le_max_right .., Nat.le_max_left ..⟩

/-- "once a Message has been used for a message at least as large": after decoding `d1`, decoding any `d2` that is
    not longer allocates nothing for `Raw` — from any earlier state of the object, well-formed input or not -/
theorem decode_steady (m : Msg) (d1 d2 : Bytes) (h : d2.length ≤ d1.length) :
    Alloc.decodeFrom (m.decodeFrom d1).1 d2 = 0 :=
  decode_warm _ _ (Nat.le_trans h (decode_cap m d1).1)

/-- `ReadFrom` reads into the array `Raw` already has: it never moves it -/
theorem readFrom_never (m : Msg) (chunk : Bytes) : Alloc.realloc m (m.readFrom chunk).1 = 0 := by
  unfold Alloc.realloc Msg.readFrom
  have hl : (chunk.take m.mem.length ++ m.mem.drop (chunk.take m.mem.length).length).length = m.mem.length := by
    simp only [List.length_append, List.length_take, List.length_drop]; omega
  simp only [decode_mem, hl, if_true]

/-- rebuilding: a `Build` whose result fits the capacity the object already has never moves `Raw`, whatever the
    object held before and whatever the setters are (typed, integrity, fingerprint, in any order), including builds
    that stop at a failing setter -/
theorem build_warm (mac : Bytes → Bytes → Bytes) (hmac : ∀ k x, (mac k x).length = 20)
    (m : Msg) (ss : List Setter) (hcap : m.len ≤ m.mem.length) (htid : m.tid.length = 12)
    (hf : AllFit mac ss m.reset.writeHeader) (h20 : 20 ≤ m.mem.length)
    (hfits : (build mac m ss).1.len ≤ m.mem.length)
    (hua : ∀ s ∈ ss, Alloc.setterExtra s = 0) : Alloc.build mac m ss = 0 := by
  have _ := hcap; have _ := h20   -- not used: `Reset` empties the window, and `hfits` bounds the capacity below
  unfold Alloc.build Alloc.realloc
  rw [build_cap mac hmac m ss htid hf, Nat.max_eq_left hfits]
  have : (ss.map Alloc.setterExtra).sum = 0 := by
    rw [List.sum_eq_zero_iff_forall_eq_nat]
    intro x hx
    obtain ⟨s, hs, rfl⟩ := List.mem_map.1 hx
    exact hua s hs
  simp [this]

/-- the only setter with an allocation of its own is UNKNOWN-ATTRIBUTES with more than 20 entries (F11: the code says
    "20 should be enough"; the attribute can carry up to 32767 entries) -/
theorem setterExtra_iff (s : Setter) :
    Alloc.setterExtra s = 0 ↔ ∀ ts, s = .unknownAttrs ts → ts.length ≤ 20 := by
  cases s with
  | unknownAttrs ts =>
    simp only [Alloc.setterExtra, Alloc.unknownAddTo, Setter.unknownAttrs.injEq, forall_eq']
    constructor
    · intro h
      by_cases h20 : ts.length ≤ 20
      · exact h20
      · -- every later branch of `unknownAddTo` is positive
        rw [if_neg h20] at h
        split at h
        · cases h
        · split at h
          · cases h
          · split at h <;> cases h
    · intro h; rw [if_pos h]
  | _ => simp [Alloc.setterExtra]

theorem unknownAttrs_21_allocates : Alloc.setterExtra (.unknownAttrs (List.replicate 21 0)) = 1 := by decide

/-- the integrity check allocates exactly when the attribute is present and fewer than 20 bytes are spare -/
theorem integrityCheck_alloc_iff (m : Msg) :
    Alloc.integrityCheck m = 0 ↔ (m.get attrMessageIntegrity = none ∨ m.len + 20 ≤ m.mem.length) := by
  unfold Alloc.integrityCheck Alloc.sumAlloc messageIntegritySize
  cases m.get attrMessageIntegrity with
  | none => simp
  | some v =>
    by_cases h : m.len + 20 ≤ m.mem.length <;> simp [h]

/-- with 20 spare bytes the integrity check allocates nothing -/
theorem integrityCheck_warm (m : Msg) (h : m.len + 20 ≤ m.mem.length) : Alloc.integrityCheck m = 0 :=
  (integrityCheck_alloc_iff m).2 (Or.inr h)

/-- a binding request with one MESSAGE-INTEGRITY attribute, held in an array of exactly its own size -/
def tightMsg : Msg :=
  let raw : Bytes := [0, 1, 0, 24, 0x21, 0x12, 0xa4, 0x42] ++ List.replicate 12 0 ++ [0, 8, 0, 20] ++ List.replicate 20 0
  { method := 1, cls := 0, length := 24, attrs := [⟨8, 20, List.replicate 20 0⟩], mem := raw, len := 44 }

/-- F9: the property is false of the code as it stands. The object holds exactly this message (its capacity is the
    message's size, as after decoding it into a fresh object or into a tight buffer); every integrity check on it
    allocates, and decoding the same bytes again (steady state) changes nothing about that. -/
theorem integrityCheck_allocates_without_spare :
    tightMsg.len ≤ tightMsg.mem.length ∧ Alloc.integrityCheck tightMsg = 1 ∧
    Alloc.decodeFrom tightMsg tightMsg.raw = 0 ∧
    (tightMsg.decodeFrom tightMsg.raw).1.mem.length = tightMsg.len := by
  refine ⟨by decide, by decide, decode_warm _ _ (by decide), ?_⟩
  rw [decodeFrom_cap]; decide

/-- an object with 64 bytes of capacity meets the capacity hypothesis `h20` of `build_warm` -/
example : (20 : Nat) ≤ (({ mem := List.replicate 64 0, len := 0 } : Msg)).mem.length := by decide

end Stun.C20
