/-
  L2 refinement of the client model: a retransmission's `Connection.Write` is a point at which the collector
  goroutine can be suspended while other goroutines (the reader, callers of Start/Close) run.

  `handleAgentCallback` is cut at that point into `retransmitBegin` (entry found and removed, attempt advanced,
  transaction re-registered with client and agent, `Write` entered) and `retransmitEnd` (`Write` returned).
  `retransmit_split` proves that running the two halves back to back is the L1 `retransmit`, so L1 is exactly the L2
  behaviour of connections whose writes never block (`step2_l1`).
  Transaction objects are pooled in the real client (`sync.Pool`). As long as every object is owned by at most one
  transaction its identity is unobservable and this by-value model is exact. Defect K1 (repaired in /repo, 7f44929)
  broke that ownership exactly here: the transaction was completed (handled and `Put`) by the reader while the
  collector was suspended in `Write`, and when the `Write` then failed the error path handled and `Put` the same
  object again. The repaired code finishes the transaction on a write error only if it is still the one registered
  under its id (`deleteIfCurrent`), which is what `release` models.
  `Start`'s own first write is cut the same way (`startBegin` / `startEnd`, `start_split`). Here the pinned code has
  a window it cannot close by itself: if the response arrives while that first `Write` is in flight and the `Write`
  then fails, `Start` returns an error although the handler has already run (known finding F12).
-/
import Stun.Model.Client
namespace Stun

/-- a retransmission whose `Connection.Write` has been entered and has not returned -/
inductive SuspKind where
  | retransmit   -- the collector goroutine, inside handleAgentCallback, at Connection.Write
  | agentStart   -- the collector goroutine, inside handleAgentCallback, at ClientAgent.Start (before the write)
  | start        -- a caller's goroutine, inside Client.Start
deriving DecidableEq, Repr

structure Susp where
  kind : SuspKind := .retransmit
  h : Nat
  id : TID
  /-- the entry as re-registered by the first half (attempt already advanced) -/
  tx : Txn
  /-- the agent deadline, computed from the clock BEFORE the transaction is registered again (so a clock that moves
      while the collector is suspended does not change it) -/
  deadline : Nat := 0
  /-- the events of the same `Collect` that the collector goroutine has not handled yet: it handles them one after
      the other, so they wait for this `Write` -/
  rest : List (TID × CEv) := []
deriving DecidableEq, Repr

namespace Client

/-- `retransmit` up to the point where `Connection.Write` is entered -/
def retransmitBegin (c : Client) (tx : Txn) (id : TID) : Client × List COut × Option Susp :=
  let tx' := { tx with attempt := tx.attempt + 1 }
  let c1 := c.insert tx'
  let r := c1.agent.start id (nextTimeout tx' c1.now)
  match r.2 with
  | some err => (c1.erase id, [.call tx.h id (if err == .closed then .agentClosed else .exists)], none)
  | none => ({ c1 with agent := r.1 }, [.write tx.raw (some tx.h)], some { h := tx.h, id := id, tx := { tx with attempt := tx.attempt + 1 } })

/-- … and from the point where it returns (`ok`: without error) -/
def retransmitEnd (c : Client) (s : Susp) (ok : Bool) : Client × List COut :=
  if ok then (c, []) else
  let c3 := c.erase s.id
  let st := c3.agent.stop s.id
  ({ c3 with agent := st.1 }, [.call s.h s.id (if st.2.1.isSome then .stopErr else .writeErr)])

/-- the retransmission up to the point where `ClientAgent.Start` is entered: the entry has been found and removed,
    the attempt advanced and the transaction registered with the client again -/
def retransmitPre (c : Client) (tx : Txn) (id : TID) : Client × Susp :=
  let tx' := { tx with attempt := tx.attempt + 1 }
  (c.insert tx', { kind := .agentStart, h := tx.h, id := id, tx := tx', deadline := nextTimeout tx' c.now })

/-- … and from there on; `inject`: the agent's `Start` fails (a custom ClientAgent may; the stock Agent does when it
    was closed meanwhile). On an error the client finishes the transaction only if it is still the one registered
    under its id. The write that follows a successful `Start` does not block here. -/
def retransmitPost (c1 : Client) (s : Susp) (inject : Bool) : Client × List COut :=
  let stale := c1.lookup s.id != some s.tx
  let r := c1.agent.start s.id s.deadline
  let err : Option AErr := if inject then some .closed else r.2
  match err with
  | some e =>
    if stale then (c1, []) else
    (c1.erase s.id, [.call s.h s.id (if e == .closed then .agentClosed else .exists)])
  | none =>
    let w := ({ c1 with agent := r.1 }).connWrite s.tx.raw
    if w.2 then (w.1, [.write s.tx.raw (some s.h)])
    else
      let stale2 := w.1.lookup s.id != some s.tx
      if stale2 then (w.1, [.write s.tx.raw (some s.h)]) else
      let c3 := w.1.erase s.id
      let st := c3.agent.stop s.id
      ({ c3 with agent := st.1 },
        [.write s.tx.raw (some s.h), .call s.h s.id (if st.2.1.isSome then .stopErr else .writeErr)])

/-- `Start` with a handler up to the point where `Connection.Write` is entered -/
def startBegin (c : Client) (id : TID) (raw : Bytes) (h : Nat) : Client × Option CErr × List COut × Option Susp :=
  if c.closed then (c, some .clientClosed, [], none) else
  let tx : Txn := ⟨id, 0, c.rto, raw, h, c.now⟩
  let d := nextTimeout tx tx.start
  if (c.lookup id).isSome then (c, some .exists, [], none) else
  let c := c.insert tx
  match c.agent.start id d with
  | (_, some err) => (c.erase id, some (if err == .closed then .agentClosed else .exists), [], none)
  | (a, none) => ({ c with agent := a }, none, [.write raw (some h)], some { kind := .start, h := h, id := id, tx := tx })

/-- … and from the point where it returns: on an error `Start` deletes by id, stops the agent transaction and
    returns the error (it does not touch the handler) -/
def startEnd (c : Client) (s : Susp) (ok : Bool) : Client × Option CErr :=
  if ok then (c, none) else
  let c3 := c.erase s.id
  let st := c3.agent.stop s.id
  ({ c3 with agent := st.1 }, some (if st.2.1.isSome then .stopErr else .write))

/-- back to back the two halves are the L1 `Start` -/
theorem start_split (c : Client) (id : TID) (raw : Bytes) (h : Nat) :
    c.start id raw (some h) =
      match startBegin c id raw h with
      | (c1, e, o1, none) => (c1, e, o1)
      | (c1, _, o1, some s) =>
        let w := c1.connWrite raw
        let r := startEnd w.1 s w.2
        (r.1, r.2, o1) := by
  unfold start startBegin startEnd
  cases c.closed with
  | true => rfl
  | false =>
    cases (c.lookup id).isSome with
    | true => rfl
    | false =>
      simp only [Bool.false_eq_true, if_false]
      generalize ((c.insert ⟨id, 0, c.rto, raw, h, c.now⟩).agent.start id _) = r
      obtain ⟨a, _ | err⟩ := r
      · simp only
        generalize (({ c.insert ⟨id, 0, c.rto, raw, h, c.now⟩ with agent := a } : Client).connWrite raw) = w
        cases w.2 <;> rfl
      · rfl

/-- the two halves back to back, with the scripted connection deciding the write, are the L1 retransmission -/
theorem retransmit_split (c : Client) (tx : Txn) (id : TID) :
    retransmit c tx id =
      match retransmitBegin c tx id with
      | (c1, o1, none) => (c1, o1)
      | (c1, o1, some s) =>
        let w := c1.connWrite tx.raw
        let r := retransmitEnd w.1 s w.2
        (r.1, o1 ++ r.2) := by
  unfold retransmit retransmitBegin retransmitEnd
  simp only
  generalize ((c.insert { tx with attempt := tx.attempt + 1 }).agent.start id _) = r
  obtain ⟨a, _ | err⟩ := r
  · simp only
    generalize (({ c.insert { tx with attempt := tx.attempt + 1 } with agent := a } : Client).connWrite tx.raw) = w
    cases w.2 <;> rfl
  · rfl

end Client

structure Client2 where
  c : Client := {}
  /-- scripted connection: the next retransmission write of a listed id blocks (one entry per occurrence) -/
  blockIds : List TID := []
  /-- scripted agent: the next `ClientAgent.Start` of a listed id (from a retransmission) blocks -/
  blockAgentIds : List TID := []
  /-- writes entered and not yet returned, oldest first -/
  susp : List Susp := []
deriving Repr

namespace Client2

def lift (k : Client2) (r : Client × List COut) : Client2 × List COut := ({ k with c := r.1 }, r.2)

/-- `handleAgentCallback` on a connection whose writes may block; the flag says that the call is now suspended -/
def callback (k : Client2) (id : TID) (e : CEv) : Client2 × List COut × Bool :=
  let c := k.c
  let l1 := (k.lift (c.callback id e))
  match c.lookup id with
  | none => (l1.1, l1.2, false)
  | some tx =>
    if c.closed || c.maxAttempts ≤ tx.attempt || e.isMsg then (l1.1, l1.2, false)
    else if k.blockAgentIds.contains id then
      let r := Client.retransmitPre (c.erase id) tx id
      ({ k with c := r.1, blockAgentIds := k.blockAgentIds.erase id, susp := k.susp ++ [r.2] }, [], true)
    else if k.blockIds.contains id then
      match Client.retransmitBegin (c.erase id) tx id with
      | (c1, o1, none) => ({ k with c := c1 }, o1, false)
      | (c1, o1, some s) => ({ k with c := c1, blockIds := k.blockIds.erase id, susp := k.susp ++ [s] }, o1, true)
    else (l1.1, l1.2, false)

/-- the handler calls of one `Collect`, in order; a suspended call keeps the remaining events waiting -/
def callbacks (k : Client2) : List (TID × CEv) → Client2 × List COut
  | [] => (k, [])
  | (id, e) :: r =>
    match k.callback id e with
    | (k1, o1, true) =>
      ({ k1 with susp := k1.susp.dropLast ++ (k1.susp.getLast?.map (fun s => { s with rest := r })).toList }, o1)
    | (k1, o1, false) =>
      let (k2, o2) := callbacks k1 r
      (k2, o1 ++ o2)

/-- the collector fires -/
def tick (k : Client2) (t : Nat) : Client2 × List COut :=
  let c := { k.c with now := t }
  let (a, _, evs) := c.agent.collect t
  ({ k with c := { c with agent := a } }).callbacks (evs.map (fun (e : AEvent) => (e.id, CEv.timeout)))

/-- the oldest blocked `Write` returns; the collector goroutine then handles the events that were waiting -/
def release (k : Client2) (ok : Bool) : Client2 × List COut :=
  match k.susp with
  | [] => (k, [])
  | s :: rest =>
    -- `deleteIfCurrent`: did somebody else complete this transaction while the collector was inside Write?
    let stale := k.c.lookup s.id != some s.tx
    let (k1, o1) :=
      if s.kind == .agentStart then ({ k with susp := rest }).lift (Client.retransmitPost k.c s (!ok))
      else if !ok && stale then ({ k with susp := rest }, [])
      else ({ k with susp := rest }).lift (Client.retransmitEnd k.c s ok)
    let (k2, o2) := k1.callbacks s.rest
    (k2, o1 ++ o2)

/-- `Start` whose first write blocks -/
def startBlocked (k : Client2) (id : TID) (raw : Bytes) (h : Nat) : Client2 × Option CErr × List COut :=
  match Client.startBegin k.c id raw h with
  | (c1, e, o1, none) => ({ k with c := c1 }, e, o1)
  | (c1, _, o1, some s) => ({ k with c := c1, susp := k.susp ++ [s] }, none, o1)

/-- the oldest suspended call is a `Start`: its write returns, and so does `Start` -/
def releaseStart (k : Client2) (ok : Bool) : Client2 × Option CErr :=
  match k.susp with
  | [] => (k, none)
  | s :: rest => let r := Client.startEnd k.c s ok; ({ k with c := r.1, susp := rest }, r.2)

end Client2

inductive COp2 where
  | l1 (op : COp)                        -- any L1 operation; ticks use the blocking-aware callback
  | blockWrite (id : TID)
  | blockAgent (id : TID)
  | release (ok : Bool)
  | startBlocked (id : TID) (raw : Bytes) (h : Nat)   -- Start whose first write blocks (returns at `release`)
  | deliverDecoded (tid : TID) (raw : Bytes)   -- a datagram that decoded to this id (the reader's Process + callback)
deriving Repr

def Client2.step (k : Client2) : COp2 → Client2 × Option CErr × List COut
  | .l1 (.tick t) => let r := k.tick t; (r.1, none, r.2)
  | .l1 op => let r := k.c.step op; ({ k with c := r.1 }, r.2.1, r.2.2)
  | .blockWrite id => ({ k with blockIds := k.blockIds ++ [id] }, none, [])
  | .blockAgent id => ({ k with blockAgentIds := k.blockAgentIds ++ [id] }, none, [])
  | .release ok =>
    if (k.susp.head?.map (·.kind)) == some SuspKind.start then let r := k.releaseStart ok; (r.1, r.2, [])
    else let r := k.release ok; (r.1, none, r.2)
  | .startBlocked id raw h => k.startBlocked id raw h
  | .deliverDecoded tid raw => let r := k.c.deliverDecoded tid raw; ({ k with c := r.1 }, none, r.2)

def Client2.run (k : Client2) : List COp2 → Client2 × List COut
  | [] => (k, [])
  | op :: r =>
    let s := k.step op
    let t := Client2.run s.1 r
    (t.1, s.2.2 ++ t.2)

end Stun
