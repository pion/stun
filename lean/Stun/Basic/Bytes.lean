/-
  Bytes: byte lists, big-endian fields, hex I/O.
  Core Lean only (this file is linked into the driver executable).
-/
namespace Stun

abbrev Bytes := List UInt8

/-- big-endian 16-bit read of two bytes (Go: `bin.Uint16`) -/
def u16 (hi lo : UInt8) : Nat := hi.toNat * 256 + lo.toNat

/-- big-endian 32-bit read of four bytes (Go: `bin.Uint32`) -/
def u32 (a b c d : UInt8) : Nat :=
  ((a.toNat * 256 + b.toNat) * 256 + c.toNat) * 256 + d.toNat

/-- Go: `bin.PutUint16(_, uint16(n))` — truncating, as the conversion `uint16(n)` does -/
def put16 (n : Nat) : Bytes := [UInt8.ofNat (n / 256), UInt8.ofNat n]

/-- Go: `bin.PutUint32(_, uint32(n))` -/
def put32 (n : Nat) : Bytes :=
  [UInt8.ofNat (n / 16777216), UInt8.ofNat (n / 65536), UInt8.ofNat (n / 256), UInt8.ofNat n]

/-- read a big-endian 16-bit field at the head of a list (0 when too short; only used under a length guard) -/
def be16 : Bytes → Nat
  | a :: b :: _ => u16 a b
  | _ => 0

def be32 : Bytes → Nat
  | a :: b :: c :: d :: _ => u32 a b c d
  | _ => 0

theorem u16_lt (a b : UInt8) : u16 a b < 65536 := by
  unfold u16
  have := a.toNat_lt; have := b.toNat_lt
  omega

theorem be16_lt : ∀ l : Bytes, be16 l < 65536
  | [] | [_] => Nat.zero_lt_succ _
  | a :: b :: _ => u16_lt a b

theorem mod_256_mul (x k : Nat) : x / 256 % k * 256 + x % 256 = x % (256 * k) := by
  rw [Nat.mod_mul, Nat.mul_comm, Nat.add_comm]

theorem u16_ofNat {n : Nat} (h : n < 65536) : u16 (UInt8.ofNat (n / 256)) (UInt8.ofNat n) = n := by
  simp only [u16, UInt8.toNat_ofNat']
  rw [mod_256_mul]; exact Nat.mod_eq_of_lt h

theorem u16_put16 (n : Nat) (h : n < 65536) :
    be16 (put16 n) = n := u16_ofNat h

theorem be16_put16_append (n : Nat) (h : n < 65536) (t : Bytes) :
    be16 (put16 n ++ t) = n := u16_ofNat h

theorem put16_length (n : Nat) : (put16 n).length = 2 := rfl
theorem put32_length (n : Nat) : (put32 n).length = 4 := rfl

theorem ofNat_shl_add (x : Nat) (d : UInt8) : UInt8.ofNat (x * 256 + d.toNat) = d :=
  UInt8.toNat_inj.mp (by rw [UInt8.toNat_ofNat']; have := d.toNat_lt; omega)

theorem shl_add_div (x : Nat) (d : UInt8) : (x * 256 + d.toNat) / 256 = x := by
  have := d.toNat_lt; omega

theorem put16_u16 (a b : UInt8) : put16 (u16 a b) = [a, b] := by
  simp only [put16, u16, shl_add_div, ofNat_shl_add, UInt8.ofNat_toNat]

theorem put32_eq (n : Nat) : put32 n =
    [UInt8.ofNat (n / 256 / 256 / 256), UInt8.ofNat (n / 256 / 256), UInt8.ofNat (n / 256), UInt8.ofNat n] := by
  simp only [put32, Nat.div_div_eq_div_mul]

theorem be32_put32_append (n : Nat) (h : n < 4294967296) (t : Bytes) :
    be32 (put32 n ++ t) = n := by
  rw [put32_eq]
  simp only [be32, u32, UInt8.toNat_ofNat', List.cons_append]
  rw [mod_256_mul, mod_256_mul, mod_256_mul]; exact Nat.mod_eq_of_lt h

theorem be32_put32 (n : Nat) (h : n < 4294967296) : be32 (put32 n) = n := be32_put32_append n h []

theorem put32_be32 : ∀ {v : Bytes}, v.length = 4 → put32 (be32 v) = v
  | [a, b, c, d], _ => by
    simp only [put32_eq, be32, u32, shl_add_div, ofNat_shl_add, UInt8.ofNat_toNat]

theorem be16_append : ∀ (l t : Bytes), 2 ≤ l.length → be16 (l ++ t) = be16 l
  | _ :: _ :: _, _, _ => rfl

theorem be32_append : ∀ (l t : Bytes), 4 ≤ l.length → be32 (l ++ t) = be32 l
  | _ :: _ :: _ :: _ :: _, _, _ => rfl

theorem be16_take (l : Bytes) {n : Nat} (h : 2 ≤ n) : be16 (l.take n) = be16 l := by
  obtain ⟨k, rfl⟩ := Nat.exists_eq_add_of_le' h
  match l with
  | [] | [_] | _ :: _ :: _ => rfl

theorem be32_take (l : Bytes) {n : Nat} (h : 4 ≤ n) : be32 (l.take n) = be32 l := by
  obtain ⟨k, rfl⟩ := Nat.exists_eq_add_of_le' h
  match l with
  | [] | [_] | [_, _] | [_, _, _] | _ :: _ :: _ :: _ :: _ => rfl

def hexDigit (n : Nat) : Char :=
  if n < 10 then Char.ofNat (48 + n) else Char.ofNat (87 + n)

def hexByte (b : UInt8) : String :=
  String.ofList [hexDigit (b.toNat / 16), hexDigit (b.toNat % 16)]

def toHex (bs : Bytes) : String :=
  String.ofList (bs.foldr (fun b acc => hexDigit (b.toNat / 16) :: hexDigit (b.toNat % 16) :: acc) [])

def hexVal (c : Char) : Option Nat :=
  if '0' ≤ c ∧ c ≤ '9' then some (c.toNat - 48)
  else if 'a' ≤ c ∧ c ≤ 'f' then some (c.toNat - 87)
  else if 'A' ≤ c ∧ c ≤ 'F' then some (c.toNat - 55)
  else none

def parseHexList : List Char → Option Bytes
  | [] => some []
  | [_] => none
  | a :: b :: t =>
    match hexVal a, hexVal b, parseHexList t with
    | some x, some y, some r => some (UInt8.ofNat (x * 16 + y) :: r)
    | _, _, _ => none

/-- `-` denotes the empty byte string on protocol lines -/
def parseHex (s : String) : Option Bytes :=
  if s == "-" then some [] else parseHexList s.toList

def showHex (bs : Bytes) : String := if bs.isEmpty then "-" else toHex bs

/-- found directly: the search otherwise walks the order-based instances first, once per declaration that compares
    bytes (core does the same for `Char`) -/
instance : LawfulBEq UInt8 := inferInstance

end Stun
