import Stun.Basic.Bytes
import Stun.Spec.RFC5389
import Stun.Spec.Attrs
import Stun.Spec.CRC32
import Stun.Spec.Hash
import Stun.Model.MsgType
import Stun.Model.Decode
import Stun.Model.Message
import Stun.Model.Attrs
import Stun.Model.Integrity
import Stun.Model.Alloc
import Stun.Model.Agent
import Stun.Model.Client
import Stun.Model.ClientL2
import Stun.Model.HmacPool
import Stun.Model.URI
import Stun.Gen.Generated
import Stun.Proofs.Bits
import Stun.Proofs.Padding
import Stun.Proofs.Decode
import Stun.Proofs.DecodeMsg
import Stun.Proofs.Reads
import Stun.Proofs.Build
import Stun.Proofs.Canonical
import Stun.Proofs.CanonicalDecode
import Stun.Proofs.SameObs
import Stun.Proofs.Encode
import Stun.Proofs.Capacity
import Stun.Proofs.Agent
import Stun.Proofs.ClientBase
import Stun.Proofs.ClientCallback
import Stun.Proofs.ClientMoves
import Stun.Proofs.ClientSpec
import Stun.Proofs.ClientHistory
import Stun.Proofs.ClientSync
import Stun.Proofs.ClientWrites
import Stun.Proofs.ClientMsg
import Stun.Proofs.ClientL2Reach
import Stun.Proofs.ClientL2Acct
import Stun.Proofs.ClientL2Writes
import Stun.Proofs.ClientL2Msg
import Stun.Proofs.URIStrings
import Stun.Proofs.URIParse
import Stun.Proofs.URIRoundTrip
import Stun.Properties.C01
import Stun.Properties.C02
import Stun.Properties.C03
import Stun.Properties.C04
import Stun.Properties.C05
import Stun.Properties.C05Burst
import Stun.Properties.C06
import Stun.Properties.C07
import Stun.Properties.C08
import Stun.Properties.C09
import Stun.Properties.C10
import Stun.Properties.C10L2
import Stun.Properties.C11
import Stun.Properties.C11L2
import Stun.Properties.C12
import Stun.Properties.C12L2
import Stun.Properties.C13
import Stun.Properties.C14
import Stun.Properties.C15
import Stun.Properties.C16
import Stun.Properties.C17
import Stun.Properties.C17RoundTrip
import Stun.Properties.C18
import Stun.Properties.C19
import Stun.Properties.C20
import Stun.Tie.Consts
import Stun.Tie.Funcs
import Stun.Tie.Locks
